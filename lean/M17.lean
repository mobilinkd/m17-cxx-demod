-- Root of the `M17` library: model, specification, generated tables, lemmas and property theorems.
import M17.Model.Golay
import M17.Spec.Golay
import M17.Lemmas.List
import M17.Lemmas.Bits
import M17.Lemmas.Golay
import M17.Props.C04
import M17.Model.Crc
import M17.Spec.Crc
import M17.Lemmas.Crc
import M17.Props.C09
import M17.Model.Bytes
import M17.Model.Cond
import M17.Model.Puncture
import M17.Spec.Cond
import M17.Spec.Fec
import M17.Lemmas.Bytes
import M17.Lemmas.Cond
import M17.Lemmas.Tx
import M17.Props.C10
import M17.Props.C10R
import M17.Props.C11
import M17.Model.Callsign
import M17.Props.C17
import M17.Model.Prbs
import M17.Props.C18
import M17.Model.Viterbi
import M17.Spec.Conv
import M17.Props.C02
import M17.Model.Decoder
import M17.Spec.DecoderSM
import M17.Lemmas.Decoder
import M17.Props.C08
import M17.Props.C05
import M17.Props.C01
import M17.Model.Queue
import M17.Props.C15
import M17.Props.C16
import M17.Model.Llr
import M17.Props.C12
import M17.Model.Dsp
import M17.Props.C19
import M17.Props.C19I
import M17.Spec.Tx
import M17.Props.C01F
import M17.Props.C05S
import M17.Props.C02D
import M17.Props.C18B
import M17.Props.C18P
import M17.Props.C12M
import M17.Model.Ax25
import M17.Model.AppPacket
import M17.Props.C07A
import M17.Props.C20P
import M17.Model.TxMod
import M17.Props.C13T
import M17.Model.Clock
import M17.Props.C07C
import M17.Props.C07P
import M17.Model.TxModulator
import M17.Props.C14T
import M17.Props.C01G
import M17.Model.Mod
import M17.Props.C13
import M17.Props.C13A
import M17.Model.Modulator
import M17.Props.C14
import M17.Props.C07
import M17.Props.C06
import M17.Props.C20
import M17.Props.C03
import M17.Props.C16W
