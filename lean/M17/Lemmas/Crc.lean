/-
The CRC-16 register for C09: the zero-input step `a0` is GF(2)-linear and injective, so the check value is an affine
function of the message; the augmented form (CRC16.h) and the direct form (`Spec.crcStep`) commute through 16 zero steps.
-/
import M17.Model.Crc
import M17.Spec.Crc
import M17.Lemmas.Bits

namespace M17.CrcL
open M17.Spec M17.Bits

/-- zero-input register step (shift left, reduce by the polynomial) -/
def a0 (r : Nat) : Nat := (2 * r % 65536) ^^^ (if 32768 ≤ r then crcPoly else 0)

def iter (f : Nat → Nat) : Nat → Nat → Nat
  | 0, x => x
  | n+1, x => iter f n (f x)

theorem poly_lt : crcPoly < 65536 := by decide
theorem poly_odd : crcPoly % 2 = 1 := by decide

theorem a0_lt (r : Nat) : a0 r < 65536 := by
  unfold a0
  have h1 : 2 * r % 65536 < 2 ^ 16 := by omega
  have h2 : (if 32768 ≤ r then crcPoly else 0) < 2 ^ 16 := by split <;> decide
  exact Nat.xor_lt_two_pow h1 h2

theorem a0_zero : a0 0 = 0 := by decide

theorem msb_iff {x : Nat} (hx : x < 65536) : x.testBit 15 = decide (32768 ≤ x) := by
  rw [Nat.testBit_eq_decide_div_mod_eq]
  congr 1
  apply propext
  constructor <;> intro h <;> omega

theorem msb_xor (a b : Nat) (ha : a < 65536) (hb : b < 65536) :
    32768 ≤ a ^^^ b ↔ ¬(32768 ≤ a ↔ 32768 ≤ b) := by
  have h := Nat.testBit_xor a b 15
  rw [msb_iff (Nat.xor_lt_two_pow (n := 16) ha hb), msb_iff ha, msb_iff hb] at h
  by_cases h1 : 32768 ≤ a <;> by_cases h2 : 32768 ≤ b <;> simpa [h1, h2] using h

theorem dbl_xor (a b : Nat) : 2 * (a ^^^ b) % 65536 = (2 * a % 65536) ^^^ (2 * b % 65536) := by
  rw [← xor_double]
  exact Nat.xor_mod_two_pow (n := 16)

theorem a0_lin (a b : Nat) (ha : a < 65536) (hb : b < 65536) : a0 (a ^^^ b) = a0 a ^^^ a0 b := by
  unfold a0
  simp only [dbl_xor, msb_xor a b ha hb, ite_xor]
  ac_rfl

theorem a0_eq_zero {x : Nat} (hx : x < 65536) (h : a0 x = 0) : x = 0 := by
  unfold a0 at h
  by_cases hm : 32768 ≤ x
  · rw [if_pos hm] at h
    have := eq_of_xor_eq_zero h
    have := poly_odd
    omega
  · rw [if_neg hm, Nat.xor_zero] at h; omega

theorem a0_inj (a b : Nat) (ha : a < 65536) (hb : b < 65536) (h : a0 a = a0 b) : a = b := by
  have hab : a ^^^ b < 65536 := Nat.xor_lt_two_pow (n := 16) ha hb
  have : a0 (a ^^^ b) = 0 := by rw [a0_lin a b ha hb, h, Nat.xor_self]
  exact eq_of_xor_eq_zero (a0_eq_zero hab this)

theorem iter_a0_lt (n r : Nat) (hr : r < 65536) : iter a0 n r < 65536 := by
  induction n generalizing r with
  | zero => exact hr
  | succ n ih => exact ih _ (a0_lt r)

theorem iter_a0_lin (n : Nat) {a b : Nat} (ha : a < 65536) (hb : b < 65536) :
    iter a0 n (a ^^^ b) = iter a0 n a ^^^ iter a0 n b := by
  induction n generalizing a b with
  | zero => rfl
  | succ n ih => simp only [iter]; rw [a0_lin a b ha hb]; exact ih (a0_lt a) (a0_lt b)

theorem iter_comm (f : Nat → Nat) (n : Nat) (a : Nat) : iter f n (f a) = f (iter f n a) := by
  induction n generalizing a with
  | zero => rfl
  | succ n ih => simp [iter, ih]

theorem iter_a0_zero (n : Nat) : iter a0 n 0 = 0 := by
  induction n with
  | zero => rfl
  | succ n ih => simp only [iter]; rw [a0_zero]; exact ih

theorem iter_a0_ne_zero (n : Nat) {x : Nat} (hx : x < 65536) (h : x ≠ 0) : iter a0 n x ≠ 0 := by
  induction n generalizing x with
  | zero => exact h
  | succ n ih =>
    simp only [iter]
    exact ih (a0_lt x) (fun h0 => h (a0_eq_zero hx h0))

theorem iter_add (f : Nat → Nat) (m n x : Nat) : iter f (m + n) x = iter f n (iter f m x) := by
  induction m generalizing x with
  | zero => simp [iter]
  | succ m ih => rw [Nat.succ_add]; simp only [iter]; exact ih _

def fwd16 (r : Nat) : Nat := iter a0 16 r

theorem fwd16_one : fwd16 1 = crcPoly := by decide
theorem fwd16_zero : fwd16 0 = 0 := iter_a0_zero 16

theorem crcStep_eq (r : Nat) (b : Bool) : crcStep r b = a0 r ^^^ (if b then crcPoly else 0) := by
  unfold crcStep a0
  by_cases h : 32768 ≤ r <;> cases b <;> simp [h]
  rw [Nat.xor_assoc, Nat.xor_self, Nat.xor_zero]

theorem crcStep_lt (r : Nat) (b : Bool) : crcStep r b < 65536 := by
  rw [crcStep_eq]
  have h2 : (if b then crcPoly else 0) < 2 ^ 16 := by split <;> decide
  exact Nat.xor_lt_two_pow (n := 16) (a0_lt r) h2

/-- augmented-form step (message bit enters at the LSB) -/
def aStep (r : Nat) (b : Bool) : Nat := a0 r ^^^ (if b then 1 else 0)

theorem aStep_lt (r : Nat) (b : Bool) : aStep r b < 65536 := by
  unfold aStep
  have h2 : (if b then 1 else 0) < 2 ^ 16 := by split <;> decide
  exact Nat.xor_lt_two_pow (n := 16) (a0_lt r) h2

theorem foldl_aStep_lt (bits : List Bool) {r : Nat} (hr : r < 65536) : bits.foldl aStep r < 65536 :=
  List.foldlRecOn (motive := (· < 65536)) bits aStep hr fun _ _ b _ => aStep_lt _ b

/-- the augmented register, run 16 further zero steps, is the direct register -/
theorem commute (r : Nat) (b : Bool) : fwd16 (aStep r b) = crcStep (fwd16 r) b := by
  rw [crcStep_eq]; unfold aStep fwd16
  have hb : (if b then 1 else 0) < 65536 := by split <;> decide
  rw [iter_a0_lin 16 (a0_lt r) hb, iter_comm]
  cases b
  · simp [iter_a0_zero]
  · have := fwd16_one; unfold fwd16 at this; simp [this]

theorem crcBitsFrom_lt {bits : List Bool} {r : Nat} (hr : r < 65536) : crcBitsFrom r bits < 65536 := by
  induction bits generalizing r with
  | nil => exact hr
  | cons b bs ih => exact ih (crcStep_lt r b)

theorem crcBitsFrom_append (r : Nat) (x y : List Bool) :
    crcBitsFrom r (x ++ y) = crcBitsFrom (crcBitsFrom r x) y := by
  unfold crcBitsFrom; rw [List.foldl_append]

theorem crcBitsFrom_zeros (j r : Nat) : crcBitsFrom r (List.replicate j false) = iter a0 j r := by
  induction j generalizing r with
  | zero => rfl
  | succ j ih =>
    rw [List.replicate_succ]
    show crcBitsFrom (crcStep r false) _ = _
    rw [ih, crcStep_eq]; simp [iter]

theorem crcStep_lin (r s : Nat) (hr : r < 65536) (hs : s < 65536) (x y : Bool) :
    crcStep (r ^^^ s) (xor x y) = crcStep r x ^^^ crcStep s y := by
  have hbit : (if xor x y then crcPoly else 0) = (if x then crcPoly else 0) ^^^ (if y then crcPoly else 0) := by
    cases x <;> cases y <;> rfl
  rw [crcStep_eq, crcStep_eq, crcStep_eq, a0_lin r s hr hs, hbit]
  ac_rfl

theorem crc_affine : ∀ (m e : List Bool) (r s : Nat), m.length = e.length → r < 65536 → s < 65536 →
    crcBitsFrom (r ^^^ s) (List.zipWith xor m e) = crcBitsFrom r m ^^^ crcBitsFrom s e
  | [], [], _, _, _, _, _ => rfl
  | x :: m, y :: e, r, s, h, hr, hs => by
    show crcBitsFrom (crcStep (r ^^^ s) (xor x y)) _ = crcBitsFrom (crcStep r x) m ^^^ crcBitsFrom (crcStep s y) e
    rw [crcStep_lin r s hr hs]
    exact crc_affine m e _ _ (by simpa using h) (crcStep_lt r x) (crcStep_lt s y)

theorem selfStep (r : Nat) : crcStep r (decide (32768 ≤ r)) = 2 * r % 65536 := by
  unfold crcStep; simp

end M17.CrcL
