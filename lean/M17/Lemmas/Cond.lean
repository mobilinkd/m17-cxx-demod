/-
A loop `buf[π i] = g i` through a bijection `π`, over any buffer with a read-after-write law (`loop_prefix`): for lists of values
`scatter` and `gather` are mutually inverse; for packed bit arrays it is the loop of `assign_bit_index` (`assign_prefix`).
-/
import M17.Model.Cond
import M17.Lemmas.Bytes
import M17.Lemmas.List

namespace M17.Cond
open M17.Bytes

/-- `π` is a bijection of `{0..n-1}` with inverse `σ` -/
def Bij (π σ : Nat → Nat) (n : Nat) : Prop :=
  (∀ i, i < n → π i < n ∧ σ (π i) = i) ∧ (∀ p, p < n → σ p < n ∧ π (σ p) = p)

theorem loop_size {β α} (size : β → Nat) (wr : β → Nat → α → β) (hsize : ∀ b i v, size (wr b i v) = size b)
    (tgt : Nat → Nat) (g : Nat → α) (l : List Nat) (buf : β) :
    size (l.foldl (fun b i => wr b (tgt i) (g i)) buf) = size buf := by
  induction l generalizing buf with
  | nil => rfl
  | cons a l ih => rw [List.foldl_cons, ih, hsize]

theorem loop_prefix {β α} (size : β → Nat) (wr : β → Nat → α → β) (rd : β → Nat → α)
    (hsize : ∀ b i v, size (wr b i v) = size b)
    (hrw : ∀ b i j v, i < size b → rd (wr b i v) j = if j = i then v else rd b j)
    {π σ : Nat → Nat} {n : Nat} (h : Bij π σ n) {g : Nat → α} {buf : β} (hb : size buf = n) {m : Nat} (hm : m ≤ n)
    {p : Nat} (hp : p < n) :
    rd ((List.range m).foldl (fun b i => wr b (π i) (g i)) buf) p = if σ p < m then g (σ p) else rd buf p := by
  induction m with
  | zero => simp
  | succ m ih =>
    rw [List.range_succ, List.foldl_append, List.foldl_cons, List.foldl_nil,
      hrw _ _ _ _ (by rw [loop_size size wr hsize, hb]; exact (h.1 m (by omega)).1), ih (by omega)]
    by_cases hmp : p = π m
    · rw [if_pos hmp, hmp, (h.1 m (by omega)).2, if_pos (Nat.lt_succ_self m)]
    · have hne : σ p ≠ m := fun hc => hmp (by rw [← hc, (h.2 p hp).2])
      rw [if_neg hmp]
      by_cases hlt : σ p < m
      · rw [if_pos hlt, if_pos (by omega)]
      · rw [if_neg hlt, if_neg (by omega)]

theorem scatter_getD {α} {π σ : Nat → Nat} {n : Nat} (h : Bij π σ n) (d : α) (xs : List α)
    (p : Nat) (hp : p < n) : (scatter π n d xs).getD p d = xs.getD (σ p) d := by
  unfold scatter
  rw [loop_prefix List.length (fun b i v => b.set i v) (fun b i => b.getD i d) (fun _ _ _ => List.length_set)
    (fun b i j v hi => by rw [Lists.getD_set]; simp only [hi, and_true, eq_comm (a := j)])
    h (by simp) (Nat.le_refl n) hp, if_pos (h.2 p hp).1]

theorem scatter_length {α} {π : Nat → Nat} {n : Nat} {d : α} {xs : List α} : (scatter π n d xs).length = n := by
  unfold scatter
  rw [loop_size List.length (fun b i v => b.set i v) (fun _ _ _ => List.length_set), List.length_replicate]

theorem gather_length {α} {π : Nat → Nat} {n : Nat} {d : α} {xs : List α} : (gather π n d xs).length = n := by
  unfold gather; simp

theorem gather_getD {α} {π : Nat → Nat} {n : Nat} {d : α} {xs : List α} {i : Nat} (hi : i < n) :
    (gather π n d xs).getD i d = xs.getD (π i) d :=
  Lists.getD_map_range hi

theorem scatter_eq_gather {α} {π σ : Nat → Nat} {n : Nat} (h : Bij π σ n) (d : α) (xs : List α) :
    scatter π n d xs = gather σ n d xs :=
  Lists.list_ext_getD d n scatter_length gather_length fun p hp => by
    rw [scatter_getD h d xs p hp, gather_getD hp]

theorem gather_scatter {α} {π σ : Nat → Nat} {n : Nat} (h : Bij π σ n) (d : α) (xs : List α) (hx : xs.length = n) :
    gather π n d (scatter π n d xs) = xs := by
  apply Lists.list_ext_getD d n gather_length hx
  intro i hi
  rw [gather_getD hi, scatter_getD h d xs _ (h.1 i hi).1, (h.1 i hi).2]

theorem scatter_gather {α} {π σ : Nat → Nat} {n : Nat} (h : Bij π σ n) (d : α) (xs : List α) (hx : xs.length = n) :
    scatter π n d (gather π n d xs) = xs := by
  apply Lists.list_ext_getD d n scatter_length hx
  intro p hp
  rw [scatter_getD h d _ p hp, gather_getD (h.2 p hp).1, (h.2 p hp).2]

theorem Bij.perm {π σ : Nat → Nat} {n : Nat} (h : Bij π σ n) : ((List.range n).map π).Perm (List.range n) := by
  refine (List.perm_ext_iff_of_nodup ?_ List.nodup_range).mpr fun a => ?_
  · refine List.pairwise_map.mpr (List.nodup_range.imp_of_mem fun {a b} ha hb hab e => hab ?_)
    rw [← (h.1 a (List.mem_range.mp ha)).2, e, (h.1 b (List.mem_range.mp hb)).2]
  · simp only [List.mem_map, List.mem_range]
    constructor
    · rintro ⟨i, hi, rfl⟩; exact (h.1 i hi).1
    · exact fun ha => ⟨σ a, h.2 a ha⟩

theorem foldl_assign_length {tgt : Nat → Nat} {val : Nat → Bool} {l : List Nat} {buf : List Nat} :
    (l.foldl (fun b i => assignBit b (tgt i) (val i)) buf).length = buf.length :=
  loop_size List.length assignBit length_assignBit tgt val l buf

theorem foldl_assign_bytes {tgt : Nat → Nat} {val : Nat → Bool} {l : List Nat} {buf : List Nat} (hb : AllBytes buf) :
    AllBytes (l.foldl (fun b i => assignBit b (tgt i) (val i)) buf) :=
  List.foldlRecOn l _ hb fun _ hb _ _ => assignBit_bytes hb _ _

theorem assign_prefix {π σ : Nat → Nat} {n : Nat} (h : Bij π σ n) (val : Nat → Bool) (buf : List Nat)
    (hb : 8 * buf.length = n) (m : Nat) (hm : m ≤ n) (p : Nat) (hp : p < n) :
    getBit ((List.range m).foldl (fun b i => assignBit b (π i) (val i)) buf) p =
      if σ p < m then val (σ p) else getBit buf p :=
  loop_prefix (8 * ·.length) assignBit getBit (fun b i v => by rw [length_assignBit])
    (fun b i j v hi => getBit_assignBit b i j v hi) h hb hm hp

theorem bij_id (n : Nat) : Bij id id n := ⟨fun _ hi => ⟨hi, rfl⟩, fun _ hp => ⟨hp, rfl⟩⟩

theorem assign_range (val : Nat → Bool) (buf : List Nat) (m : Nat) (hm : m ≤ 8 * buf.length) (p : Nat) (hp : p < 8 * buf.length) :
    getBit ((List.range m).foldl (fun b i => assignBit b i (val i)) buf) p = if p < m then val p else getBit buf p :=
  assign_prefix (bij_id _) val buf rfl m hm p hp

end M17.Cond
