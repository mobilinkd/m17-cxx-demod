/-
Helper lemmas for C04 (Golay): GF(2)-linearity of the shift register and what follows from it; the minimum weight
and the generated table are kernel evaluations (`decide +kernel`).
-/
import M17.Model.Golay
import M17.Spec.Golay
import M17.Lemmas.Bits

namespace M17.Golay
open M17.Bits

theorem synStepP_eq (poly c : Nat) : synStepP poly c = (c ^^^ if c % 2 = 1 then poly else 0) / 2 := by
  unfold synStepP; split <;> simp

theorem synStepP_lin (poly a b : Nat) : synStepP poly (a ^^^ b) = synStepP poly a ^^^ synStepP poly b := by
  simp only [synStepP_eq, Nat.xor_mod_two_eq_one, ite_xor]
  rw [← Nat.xor_div_two]; congr 1; ac_rfl

theorem synStep_lin (a b : Nat) : synStep (a ^^^ b) = synStep a ^^^ synStep b := synStepP_lin _ a b

theorem syn_lin (a b : Nat) : syn (a ^^^ b) = syn a ^^^ syn b := iter_lin _ synStep_lin 12 a b

theorem syn_zero : syn 0 = 0 := by decide

theorem poly_lt : Gen.golayPoly < 2 ^ 12 := by decide

theorem synStep_lt (k c : Nat) (hk : 11 ≤ k) (hc : c < 2 ^ (k + 1)) : synStep c < 2 ^ k := by
  unfold synStep synStepP
  have hp : Gen.golayPoly < 2 ^ (k + 1) :=
    Nat.lt_of_lt_of_le poly_lt (Nat.pow_le_pow_right (by decide) (by omega))
  have hx : c ^^^ Gen.golayPoly < 2 ^ (k + 1) := Nat.xor_lt_two_pow hc hp
  rw [Nat.pow_succ] at hc hx
  split <;> omega

theorem iter_synStep_lt (k : Nat) (hk : 11 ≤ k) : ∀ n c, c < 2 ^ (k + n) → iter synStep n c < 2 ^ k
  | 0, _, h => h
  | n+1, c, h => iter_synStep_lt k hk n _ (synStep_lt (k + n) c (by omega) h)

theorem syn_lt (x : Nat) (hx : x < 2 ^ 23) : syn x < 2 ^ 11 := iter_synStep_lt 11 (by decide) 12 x hx

/-- the register never leaves the non-zero 11-bit words: bit 11 of the polynomial is set, so an odd word stays
    non-zero when the polynomial is added -/
theorem synStep_low (c : Nat) (h : c < 2 ^ 11 ∧ c ≠ 0) : synStep c < 2 ^ 11 ∧ synStep c ≠ 0 := by
  obtain ⟨hc, h0⟩ := h
  refine ⟨synStep_lt 11 c (by decide) (by omega), ?_⟩
  unfold synStep synStepP
  have hx : (c ^^^ Gen.golayPoly) / 2 ^ 11 = 1 := by
    rw [Nat.xor_div_two_pow, Nat.div_eq_of_lt hc]; decide
  split <;> omega

theorem syn_low (t : Nat) (ht : t < 2 ^ 11) (hs : syn t = 0) : t = 0 :=
  Decidable.by_contra fun h0 => (iter_inv synStep_low 12 t ⟨ht, h0⟩).2 hs

theorem encode23_eq_add (d : Nat) (hd : d < 4096) : encode23 d = 2048 * d + syn d ∧ syn d < 2048 := by
  have hs := syn_lt d (by omega)
  refine ⟨?_, hs⟩
  unfold encode23
  rw [Nat.or_comm, ← Nat.shiftLeft_add_eq_or_of_lt hs, Nat.shiftLeft_eq]
  omega

theorem encode23_eq (d : Nat) (hd : d < 4096) : encode23 d = d <<< 11 ^^^ syn d := by
  obtain ⟨e, hs⟩ := encode23_eq_add d hd
  rw [shl_xor_of_lt d hs, e, Nat.shiftLeft_eq]
  omega

theorem enc_lin (a b : Nat) :
    (a ^^^ b) <<< 11 ^^^ syn (a ^^^ b) = (a <<< 11 ^^^ syn a) ^^^ (b <<< 11 ^^^ syn b) := by
  rw [syn_lin, Nat.shiftLeft_xor_distrib]; ac_rfl

/-- code words have zero syndrome: the map is linear, so the twelve rows of the generator matrix decide -/
theorem syn_encode23 (d : Nat) (hd : d < 4096) : syn (encode23 d) = 0 := by
  rw [encode23_eq d hd]
  exact lin_ext (f := fun d => syn (d <<< 11 ^^^ syn d)) (g := fun _ => 0)
    (fun a b => by rw [enc_lin, syn_lin]) (fun _ _ => rfl) 12 (by decide +kernel) d hd

/-- minimum weight 7: all 4095 non-zero combinations of the generator rows (`allSpan`), each tested by clearing six
    set bits (`wtN_iter_clear`) -/
theorem encode23_weight (d : Nat) (hd : d < 4096) (h0 : d ≠ 0) : 7 ≤ wtN 23 (encode23 d) := by
  have e1 := encode23_eq d hd
  obtain ⟨e2, hs⟩ := encode23_eq_add d hd
  have h := allSpan_spec (f := fun d => d <<< 11 ^^^ syn d) enc_lin
    (fun x => x == 0 || iter (fun x => x &&& (x - 1)) 6 x != 0) 12 0 (by decide +kernel) d hd
  simp only [Nat.zero_xor, ← e1, Bool.or_eq_true, beq_iff_eq, bne_iff_ne, ne_eq] at h
  rcases h with h | h
  · omega
  · obtain ⟨h1, h2⟩ := wtN_iter_clear 23 6 (encode23 d) (by omega)
    have := wtN_eq_zero 23 _ h1
    omega

/-- the generated LUT: entry `i` has key `i << 12`, a pattern of weight ≤ 3 below 2^23 whose
    syndrome is `i`; 2048 entries -/
def lutOKb : Bool :=
  lut.length == 2048 &&
  lut.zipIdx.all fun e =>
    e.1.1 == e.2 <<< 12 && syn e.1.2 == e.2 && decide (wtN 23 e.1.2 ≤ 3) && decide (e.1.2 < 2 ^ 23)

theorem lutOKb_true : lutOKb = true := by decide +kernel

end M17.Golay
