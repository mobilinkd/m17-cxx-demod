/-
General lemmas on `Nat` bit operations, on GF(2)-linear maps on words and on the population count `wtN`.
-/
import M17.Model.Golay

namespace M17.Bits
open M17.Golay (wtN iter)

theorem xor_xor_self (a b : Nat) : a ^^^ (a ^^^ b) = b := by
  rw [← Nat.xor_assoc, Nat.xor_self, Nat.zero_xor]

theorem eq_of_xor_eq_zero {a b : Nat} (h : a ^^^ b = 0) : a = b := by
  rw [← xor_xor_self a b, h, Nat.xor_zero]

theorem xor_eq_left {a e : Nat} : a ^^^ e = a ↔ e = 0 :=
  ⟨fun h => by rw [← xor_xor_self a e, h, Nat.xor_self], fun h => by rw [h, Nat.xor_zero]⟩

theorem xor_cancel_mid (x y p : Nat) : x ^^^ p ^^^ (y ^^^ p) = x ^^^ y := by
  have : x ^^^ p ^^^ (y ^^^ p) = x ^^^ y ^^^ (p ^^^ p) := by ac_rfl
  rw [this, Nat.xor_self, Nat.xor_zero]

theorem xor_cancel_left (r a b : Nat) : (r ^^^ a) ^^^ (r ^^^ b) = a ^^^ b := by
  rw [Nat.xor_comm r a, Nat.xor_comm r b, xor_cancel_mid]

/-- the conditional xor of a shift register (`if bit then reg ^= poly`) is additive in the bit -/
theorem ite_xor (P Q : Prop) [Decidable P] [Decidable Q] (p : Nat) :
    (if ¬(P ↔ Q) then p else 0) = (if P then p else 0) ^^^ (if Q then p else 0) := by
  by_cases hP : P <;> by_cases hQ : Q <;> simp [hP, hQ]

theorem shl1 (x : Nat) : x <<< 1 = 2 * x := by rw [Nat.shiftLeft_eq]; omega
theorem shr1 (x : Nat) : x >>> 1 = x / 2 := by rw [Nat.shiftRight_eq_div_pow, Nat.pow_one]

theorem shl1_or {x b : Nat} (hb : b < 2) : (x <<< 1) ||| b = 2 * x + b := by
  rw [← Nat.shiftLeft_add_eq_or_of_lt (by simpa using hb), shl1]

theorem xor_double (x y : Nat) : (2 * x) ^^^ (2 * y) = 2 * (x ^^^ y) := by
  rw [← shl1, ← shl1, ← shl1, Nat.shiftLeft_xor_distrib]

theorem bit_xor : ∀ a, a < 2 → ∀ b, b < 2 → a ^^^ b = (a + b) % 2 := by decide

theorem xor_double_add (x y a b : Nat) (ha : a < 2) (hb : b < 2) :
    (2 * x + a) ^^^ (2 * y + b) = 2 * (x ^^^ y) + (a ^^^ b) := by
  have h1 : ((2 * x + a) ^^^ (2 * y + b)) / 2 = x ^^^ y := by
    rw [Nat.xor_div_two]; congr 1 <;> omega
  have h2 : ((2 * x + a) ^^^ (2 * y + b)) % 2 = a ^^^ b := by
    rw [← Nat.pow_one 2, Nat.xor_mod_two_pow, Nat.pow_one]; congr 1 <;> omega
  rw [← Nat.div_add_mod (_ ^^^ _) 2, h1, h2]

theorem double_xor_bit {x b : Nat} (hb : b < 2) : 2 * x ^^^ b = 2 * x + b := by
  have := xor_double_add x 0 0 b (by decide) hb
  simpa using this

theorem xor_clear_low (e : Nat) : e ^^^ (2 * (e / 2)) = e % 2 := by
  have h := xor_double_add (e / 2) (e / 2) (e % 2) 0 (by omega) (by decide)
  rwa [Nat.div_add_mod, Nat.xor_self, Nat.xor_zero, Nat.add_zero, Nat.mul_zero, Nat.zero_add] at h

theorem shl_xor_of_lt : ∀ {i b : Nat} (a : Nat), b < 2 ^ i → a <<< i ^^^ b = a <<< i + b
  | 0, b, a, h => by
    have : b = 0 := by simpa using h
    subst this; simp
  | i+1, b, a, h => by
    have h2 : b / 2 < 2 ^ i := by rw [Nat.pow_succ] at h; omega
    have := xor_double_add (a <<< i) (b / 2) 0 (b % 2) (by decide) (by omega)
    rw [shl_xor_of_lt a h2, Nat.add_zero, Nat.zero_xor, Nat.div_add_mod] at this
    rw [Nat.shiftLeft_succ, this]
    omega

theorem wtN_zero (n : Nat) : wtN n 0 = 0 := by
  induction n with
  | zero => rfl
  | succ n ih => simp [wtN, ih]

theorem wtN_le (n : Nat) : ∀ x, wtN n x ≤ n := by
  induction n with
  | zero => intro x; simp [wtN]
  | succ n ih => intro x; simp only [wtN]; have := ih (x / 2); omega

theorem bit_xor_and : ∀ a, a < 2 → ∀ b, b < 2 → (a ^^^ b) + 2 * (a &&& b) = a + b := by decide

/-- inclusion–exclusion, bit by bit -/
theorem wtN_xor_add (n : Nat) : ∀ a b, wtN n (a ^^^ b) + 2 * wtN n (a &&& b) = wtN n a + wtN n b := by
  induction n with
  | zero => intro a b; simp [wtN]
  | succ n ih =>
    intro a b
    simp only [wtN, Nat.xor_div_two, Nat.and_div_two]
    have := ih (a / 2) (b / 2)
    have hb := bit_xor_and (a % 2) (Nat.mod_lt _ (by decide)) (b % 2) (Nat.mod_lt _ (by decide))
    rw [← Nat.pow_one 2, ← Nat.xor_mod_two_pow, ← Nat.and_mod_two_pow, Nat.pow_one] at hb
    omega

theorem wtN_xor_le (n a b : Nat) : wtN n (a ^^^ b) ≤ wtN n a + wtN n b := by
  have := wtN_xor_add n a b; omega

theorem wtN_xor_parity (n a b : Nat) : wtN n (a ^^^ b) % 2 = (wtN n a + wtN n b) % 2 := by
  have := wtN_xor_add n a b; omega

theorem wtN_of_lt (n : Nat) : ∀ (k x : Nat), x < 2 ^ n → wtN (n + k) x = wtN n x := by
  induction n with
  | zero => intro k x h; have : x = 0 := by simpa using h
            subst this; simp [wtN_zero]
  | succ n ih =>
    intro k x h
    have : n + 1 + k = (n + k) + 1 := by omega
    rw [this]
    simp only [wtN]
    rw [ih k (x / 2) (by rw [Nat.pow_succ] at h; omega)]

theorem wtN_eq_zero (n : Nat) : ∀ x, x < 2 ^ n → wtN n x = 0 → x = 0 := by
  induction n with
  | zero => intro x h _; simpa using h
  | succ n ih =>
    intro x h hw
    simp only [wtN] at hw
    have h1 : x / 2 = 0 := ih (x / 2) (by rw [Nat.pow_succ] at h; omega) (by omega)
    omega

theorem wtN_succ_double (n x b : Nat) (hb : b < 2) : wtN (n + 1) (2 * x + b) = b + wtN n x := by
  simp only [wtN]
  have h1 : (2 * x + b) % 2 = b := by omega
  have h2 : (2 * x + b) / 2 = x := by omega
  rw [h1, h2]

/-- `x &&& (x - 1)` clears the lowest set bit -/
theorem wtN_clear_low : ∀ (n x : Nat), x ≠ 0 → x < 2 ^ n → wtN n (x &&& (x - 1)) + 1 = wtN n x
  | 0, x, h0, h => by omega
  | n+1, x, h0, h => by
    simp only [wtN, Nat.and_div_two]
    rw [← Nat.pow_one 2, Nat.and_mod_two_pow, Nat.pow_one]
    by_cases hx : x % 2 = 1
    · rw [show (x - 1) / 2 = x / 2 by omega, show (x - 1) % 2 = 0 by omega, hx, Nat.and_self, show 1 &&& 0 = 0 from rfl]
      omega
    · rw [show (x - 1) / 2 = x / 2 - 1 by omega, show x % 2 = 0 by omega, Nat.zero_and,
        ← wtN_clear_low n (x / 2) (by omega) (by rw [Nat.pow_succ] at h; omega)]
      omega

/-- clearing the lowest set bit `k` times removes `k` from the weight.  In the kernel a round of this costs as much as
    a round of `wtN`, so comparing a weight with `k` this way takes `k` rounds where `wtN 23` takes 23. -/
theorem wtN_iter_clear (n : Nat) : ∀ (k x : Nat), x < 2 ^ n →
    iter (fun x => x &&& (x - 1)) k x < 2 ^ n ∧ wtN n (iter (fun x => x &&& (x - 1)) k x) = wtN n x - k
  | 0, x, h => ⟨h, rfl⟩
  | k+1, x, h => by
    obtain ⟨h1, h2⟩ := wtN_iter_clear n k (x &&& (x - 1)) (Nat.lt_of_le_of_lt Nat.and_le_left h)
    refine ⟨h1, ?_⟩
    rw [iter, h2]
    by_cases hx : x = 0
    · subst hx; simp [wtN_zero]
    · have := wtN_clear_low n x hx h; omega

theorem iter_lin (f : Nat → Nat) (hf : ∀ a b, f (a ^^^ b) = f a ^^^ f b) (n : Nat) :
    ∀ a b, iter f n (a ^^^ b) = iter f n a ^^^ iter f n b := by
  induction n with
  | zero => intro a b; rfl
  | succ n ih => intro a b; simp [iter, hf, ih]

theorem iter_inv {P : Nat → Prop} {f : Nat → Nat} (h : ∀ x, P x → P (f x)) : ∀ n x, P x → P (iter f n x)
  | 0, _, hx => hx
  | n+1, x, hx => iter_inv h n (f x) (h x hx)

section Linear
variable {f g : Nat → Nat} (hf : ∀ a b, f (a ^^^ b) = f a ^^^ f b) (hg : ∀ a b, g (a ^^^ b) = g a ^^^ g b)
include hf

theorem lin_zero : f 0 = 0 := by
  have := hf 0 0
  rwa [Nat.xor_self, Nat.xor_self] at this

theorem lin_top {n d : Nat} (hd : d < 2 ^ (n + 1)) (hlt : ¬ d < 2 ^ n) :
    d - 2 ^ n < 2 ^ n ∧ f d = f (2 ^ n) ^^^ f (d - 2 ^ n) := by
  have hd' : d - 2 ^ n < 2 ^ n := by rw [Nat.pow_succ] at hd; omega
  have hx := shl_xor_of_lt 1 hd'
  rw [Nat.one_shiftLeft] at hx
  refine ⟨hd', ?_⟩
  rw [← hf, hx]
  congr 1; omega

include hg in
theorem lin_ext : ∀ n, (∀ i, i < n → f (2 ^ i) = g (2 ^ i)) → ∀ d, d < 2 ^ n → f d = g d := by
  intro n
  induction n with
  | zero =>
    intro _ d hd
    have hd : d = 0 := by simpa using hd
    rw [hd, lin_zero hf, lin_zero hg]
  | succ n ih =>
    intro h d hd
    by_cases hlt : d < 2 ^ n
    · exact ih (fun i hi => h i (by omega)) d hlt
    · obtain ⟨hd', e1⟩ := lin_top hf hd hlt
      rw [e1, (lin_top hg hd hlt).2, h n (by omega), ih (fun i hi => h i (by omega)) _ hd']

/-- `p` holds of `acc` xor every GF(2)-combination of `f 1, f 2, f 4, …, f (2^(n-1))`; visiting the `2^n` combinations
    costs one xor each, however dear `f` is -/
def allSpan (p : Nat → Bool) (f : Nat → Nat) : Nat → Nat → Bool
  | 0, acc => p acc
  | n+1, acc => allSpan p f n acc && allSpan p f n (acc ^^^ f (2 ^ n))

theorem allSpan_spec (p : Nat → Bool) :
    ∀ n acc, allSpan p f n acc = true → ∀ d, d < 2 ^ n → p (acc ^^^ f d) = true := by
  intro n
  induction n with
  | zero =>
    intro acc h d hd
    have hd : d = 0 := by simpa using hd
    rw [hd, lin_zero hf, Nat.xor_zero]; exact h
  | succ n ih =>
    intro acc h d hd
    simp only [allSpan, Bool.and_eq_true] at h
    by_cases hlt : d < 2 ^ n
    · exact ih acc h.1 d hlt
    · obtain ⟨hd', e1⟩ := lin_top hf hd hlt
      rw [e1, ← Nat.xor_assoc]
      exact ih _ h.2 _ hd'

end Linear

/-- a xor of table rows selected by the bits of `d` is linear in `d` -/
theorem foldl_testBit_lin (r : Nat → Nat) (l : List Nat) : ∀ (a b d e : Nat),
    l.foldl (fun acc i => if (d ^^^ e).testBit i then acc ^^^ r i else acc) (a ^^^ b) =
      l.foldl (fun acc i => if d.testBit i then acc ^^^ r i else acc) a ^^^
      l.foldl (fun acc i => if e.testBit i then acc ^^^ r i else acc) b := by
  induction l with
  | nil => intro a b d e; rfl
  | cons i l ih =>
    intro a b d e
    simp only [List.foldl_cons]
    rw [← ih, Nat.testBit_xor]; congr 1
    -- row `i` goes to neither side, to one of them, or to both, where it cancels
    cases d.testBit i <;> cases e.testBit i <;> simp
    · ac_rfl
    · ac_rfl
    · exact (xor_cancel_mid _ _ _).symm

theorem low_bits_set (x n : Nat) : x % 2 ^ n = 2 ^ n - 1 ↔ ∀ i, i < n → x.testBit i = true := by
  constructor
  · intro h i hi
    have := congrArg (·.testBit i) h
    simpa [Nat.testBit_mod_two_pow, Nat.testBit_two_pow_sub_one, hi] using this
  · intro h
    apply Nat.eq_of_testBit_eq
    intro i
    rw [Nat.testBit_mod_two_pow, Nat.testBit_two_pow_sub_one]
    by_cases hi : i < n
    · simp [hi, h i hi]
    · simp [hi]

theorem and_two_pow (x k : Nat) : x &&& 2 ^ k = if x.testBit k then 2 ^ k else 0 := by
  apply Nat.eq_of_testBit_eq
  intro j
  rw [Nat.testBit_and, Nat.testBit_two_pow]
  by_cases hj : k = j
  · subst hj; cases x.testBit k <;> simp
  · cases x.testBit k <;> simp [hj]

/-- the bit loops of the code shift a word left inside an `N`-bit register and test bit `n - 1` of it: at step `i` that is bit
    `n - 1 - i` of the word -/
theorem testBit_shl (w i n N : Nat) (hi : i < n) (hn : n ≤ N) : ((w <<< i) % 2 ^ N).testBit (n - 1) = w.testBit (n - 1 - i) := by
  rw [Nat.testBit_mod_two_pow, Nat.testBit_shiftLeft, decide_eq_true (by omega : n - 1 < N), decide_eq_true (by omega : n - 1 ≥ i)]
  rfl

theorem or_bit (x k : Nat) (b : Bool) : x * 2 ^ (k + 1) ||| b.toNat * 2 ^ k = (2 * x + b.toNat) * 2 ^ k := by
  have hb : b.toNat * 2 ^ k < 2 ^ (k + 1) := by
    have := Nat.two_pow_pos k
    cases b <;> simp [Nat.pow_succ] <;> omega
  rw [Nat.mul_comm x, ← Nat.two_pow_add_eq_or_of_lt hb, Nat.pow_succ, Nat.add_mul]
  ac_rfl

end M17.Bits
