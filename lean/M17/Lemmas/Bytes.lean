/-
Lemmas about the MSB-first bit helpers of `M17.Model.Bytes` (`getBit`, `assignBit`).
-/
import M17.Model.Bytes
import M17.Lemmas.List

namespace M17.Bytes

def AllBytes (bs : List Nat) : Prop := ∀ b ∈ bs, b < 256

theorem getD_lt_of_allBytes {bs : List Nat} (hb : AllBytes bs) (k : Nat) : bs.getD k 0 < 256 := by
  rw [List.getD_eq_getElem?_getD]
  cases h : bs[k]? with
  | none => decide
  | some b => exact hb b (List.mem_of_getElem? h)

theorem zeros_bytes (n : Nat) : AllBytes (List.replicate n 0) := by
  intro x hx; simp only [List.mem_replicate] at hx; omega

theorem getD_set_eq {α} (l : List α) (i j : Nat) (a d : α) :
    (l.set i a).getD j d = if i = j ∧ i < l.length then a else l.getD j d :=
  Lists.getD_set l i j a d

theorem length_setBit (bs : List Nat) (i : Nat) : (setBit bs i).length = bs.length := by simp [setBit]
theorem length_resetBit (bs : List Nat) (i : Nat) : (resetBit bs i).length = bs.length := by simp [resetBit]
theorem length_assignBit (bs : List Nat) (i : Nat) (v : Bool) : (assignBit bs i v).length = bs.length := by
  unfold assignBit; split <;> simp [length_setBit, length_resetBit]

theorem testBit_255 (k : Nat) : (255 : Nat).testBit k = decide (k < 8) := by
  have : (255 : Nat) = 2 ^ 8 - 1 := by decide
  rw [this, Nat.testBit_two_pow_sub_one]

theorem testBit_assign {b k t : Nat} {v : Bool} (ht : t < 8) :
    (if v then b ||| 2 ^ k else b &&& (255 ^^^ 2 ^ k)).testBit t = if t = k then v else b.testBit t := by
  by_cases h : t = k
  · subst h; cases v <;> simp [testBit_255, ht]
  · have h' : ¬ k = t := fun e => h e.symm
    cases v <;> simp [testBit_255, ht, h, h']

theorem getBit_assignBit (bs : List Nat) (i j : Nat) (v : Bool) (hi : i < 8 * bs.length) :
    getBit (assignBit bs i v) j = if j = i then v else getBit bs j := by
  have he : assignBit bs i v =
      bs.set (i / 8) (if v then bs.getD (i / 8) 0 ||| 2 ^ (7 - i % 8) else bs.getD (i / 8) 0 &&& (255 ^^^ 2 ^ (7 - i % 8))) := by
    cases v <;> rfl
  unfold getBit
  rw [he, getD_set_eq]
  by_cases hb : i / 8 = j / 8
  · have hji : 7 - j % 8 = 7 - i % 8 ↔ j = i := by omega
    rw [if_pos ⟨hb, by omega⟩, testBit_assign (by omega), ← hb]
    simp only [hji]
  · rw [if_neg (fun h => hb h.1), if_neg (fun h : j = i => hb (h ▸ rfl))]

theorem allBytes_append {a b : List Nat} : AllBytes (a ++ b) ↔ AllBytes a ∧ AllBytes b := List.forall_mem_append

theorem allBytes_set {bs : List Nat} (hb : AllBytes bs) (i : Nat) {v : Nat} (hv : v < 256) : AllBytes (bs.set i v) := by
  intro x hx
  rcases List.mem_or_eq_of_mem_set hx with h | rfl
  · exact hb x h
  · exact hv

theorem assignBit_bytes {bs : List Nat} (hb : AllBytes bs) (i : Nat) (v : Bool) : AllBytes (assignBit bs i v) := by
  have hg : bs.getD (i / 8) 0 < 2 ^ 8 := getD_lt_of_allBytes hb _
  unfold assignBit
  split
  · exact allBytes_set hb _ (Nat.or_lt_two_pow hg (Nat.pow_lt_pow_right (by decide) (by omega)))
  · exact allBytes_set hb _ (Nat.lt_of_le_of_lt Nat.and_le_left hg)

theorem getBit_replicate_zero (n j : Nat) : getBit (List.replicate n 0) j = false := by
  unfold getBit
  rw [Lists.getD_replicate, Nat.zero_testBit]

end M17.Bytes
