/-
`Dec.step` case by case.  These equations hold by `rfl` when stated on their own; unfolding `step` inside a proof about one of
the per-type decoders instead leaves the kernel to find the decoder under the conditioning `let` and the two `match`es, which it
does by unfolding the FEC chain on the symbolic frame (tens of thousands of heartbeats per use).
-/
import M17.Model.Decoder

namespace M17.Dec

theorem step_lsf (σ : DState) (f : List Int) (cb : Bool) :
    step σ .lsf f cb = decodeLsf { σ with mode := .lsf } (Cond.deinterleaveSoft (Cond.randSoft f)) := rfl

theorem step_bert (σ : DState) (f : List Int) (cb : Bool) :
    step σ .bert f cb = decodeBert { σ with mode := .bert } (Cond.deinterleaveSoft (Cond.randSoft f)) := rfl

theorem step_stream (σ : DState) (f : List Int) (cb : Bool) :
    step σ .stream f cb =
      match σ.mode with
      | .lsf => decodeLich σ (Cond.deinterleaveSoft (Cond.randSoft f))
      | .stream => decodeStream σ (Cond.deinterleaveSoft (Cond.randSoft f))
      | _ => { state := { σ with mode := .lsf }, calls := [], result := .fail, cost := none } := rfl

theorem step_packet (σ : DState) (f : List Int) (cb : Bool) :
    step σ .packet f cb =
      match σ.mode with
      | .basicPacket => decodePacket σ (Cond.deinterleaveSoft (Cond.randSoft f)) .basicPacket cb
      | .fullPacket => decodePacket σ (Cond.deinterleaveSoft (Cond.randSoft f)) .fullPacket cb
      | _ => { state := { σ with mode := .lsf }, calls := [], result := .fail, cost := none } := rfl

theorem step_stream_lsf {σ : DState} {f : List Int} {cb : Bool} (hm : σ.mode = .lsf) :
    step σ .stream f cb = decodeLich σ (Cond.deinterleaveSoft (Cond.randSoft f)) := by rw [step_stream, hm]

theorem step_stream_stream {σ : DState} {f : List Int} {cb : Bool} (hm : σ.mode = .stream) :
    step σ .stream f cb = decodeStream σ (Cond.deinterleaveSoft (Cond.randSoft f)) := by rw [step_stream, hm]

end M17.Dec
