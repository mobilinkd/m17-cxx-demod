/-
Bits and bytes of the specification encoder (`M17.Spec.Tx`): a bit string read MSB first as a number (`bitsVal`), the
bits of a number (`wordBits`; `Spec.byteBits` is the case of width 8), and the two packings `bitsOfBytes` / `bytesOfBits`.
A byte built by any of the loops in the code (`2 * v + b`, `(c <<< 1) ||| b`, `acc ||| 2 ^ (7 - k)`) is `bitsVal` of its bits,
by induction on the bit string from its last bit.
-/
import M17.Spec.Tx
import M17.Lemmas.Bytes
import M17.Lemmas.Cond
import M17.Lemmas.List
import M17.Lemmas.Bits

/- `bitsVal` (and, further down, `bitsOfBytes_length` and `chunk_bitsOfBytes`) are in namespace `M17.C01F`: the statements of the frame
   round trips in `M17.Props.C01F` speak of `C01F.bitsVal`, and the lemmas about it have to stand before the transmitter files. -/
namespace M17.C01F

/-- value of a bit string, MSB first -/
def bitsVal (bits : List Bool) : Nat := bits.foldl (fun v b => 2 * v + b.toNat) 0

theorem bitsVal_concat (l : List Bool) (b : Bool) : bitsVal (l ++ [b]) = 2 * bitsVal l + b.toNat := by
  unfold bitsVal; rw [List.foldl_append]; rfl

theorem bitsVal_lt (l : List Bool) : bitsVal l < 2 ^ l.length := by
  induction l using Lists.concat_induction with
  | nil => decide
  | concat l b ih =>
    rw [bitsVal_concat, List.length_append, List.length_singleton, Nat.pow_succ]
    have : b.toNat ≤ 1 := Bool.toNat_le b
    omega

theorem bitsVal_append (a b : List Bool) : bitsVal (a ++ b) = bitsVal a * 2 ^ b.length + bitsVal b := by
  induction b using Lists.concat_induction with
  | nil => rw [List.append_nil]; exact (Nat.mul_one _).symm
  | concat b x ih =>
    rw [← List.append_assoc, bitsVal_concat, ih, bitsVal_concat, List.length_append, List.length_singleton, Nat.pow_succ,
      Nat.mul_add, ← Nat.mul_assoc, Nat.mul_comm 2 (bitsVal a), Nat.mul_assoc, Nat.mul_comm 2, Nat.add_assoc]

theorem bitsVal_replicate_false (k : Nat) : bitsVal (List.replicate k false) = 0 := by
  induction k with
  | zero => rfl
  | succ k ih => rw [List.replicate_succ', bitsVal_concat, ih]; rfl

end M17.C01F

namespace M17.Spec.Tx
open M17.C01F M17.Bytes

theorem wordBits_length (w n : Nat) : (wordBits w n).length = n := by unfold wordBits; simp

theorem wordBits_succ (w n : Nat) : wordBits w (n + 1) = wordBits (w / 2) n ++ [decide (w % 2 = 1)] := by
  unfold wordBits
  rw [List.range_succ, List.map_append]
  congr 1
  · apply List.map_congr_left
    intro i hi
    have hi' := List.mem_range.mp hi
    have e : n + 1 - 1 - i = (n - 1 - i) + 1 := by omega
    rw [e, Nat.shiftRight_succ_inside]
  · simp

theorem wordBits_add (m : Nat) : ∀ (n w : Nat), wordBits w (m + n) = wordBits (w / 2 ^ n) m ++ wordBits w n := by
  intro n
  induction n with
  | zero => intro w; simp [wordBits]
  | succ n ih =>
    intro w
    rw [← Nat.add_assoc, wordBits_succ, ih, wordBits_succ w n, List.append_assoc, Nat.div_div_eq_div_mul, Nat.pow_succ,
      Nat.mul_comm]

theorem bitsVal_wordBits : ∀ (n w : Nat), bitsVal (wordBits w n) = w % 2 ^ n := by
  intro n
  induction n with
  | zero => intro w; simp [wordBits, bitsVal, Nat.mod_one]
  | succ n ih =>
    intro w
    have : (decide (w % 2 = 1)).toNat = w % 2 := by rcases Nat.mod_two_eq_zero_or_one w with h | h <;> simp [h]
    rw [wordBits_succ, bitsVal_concat, ih (w / 2), this, Nat.pow_succ, Nat.mul_comm (2 ^ n) 2, Nat.mod_mul]
    omega

theorem wordBits_bitsVal (l : List Bool) : wordBits (bitsVal l) l.length = l := by
  induction l using Lists.concat_induction with
  | nil => rfl
  | concat l b ih =>
    have h1 : (2 * bitsVal l + b.toNat) / 2 = bitsVal l := by have := Bool.toNat_le b; omega
    have h2 : decide ((2 * bitsVal l + b.toNat) % 2 = 1) = b := by cases b <;> simp <;> omega
    rw [List.length_append, List.length_singleton, wordBits_succ, bitsVal_concat, h1, h2, ih]

theorem wordBits_mod (w n : Nat) : wordBits (w % 2 ^ n) n = wordBits w n := by
  have := wordBits_bitsVal (wordBits w n)
  rwa [bitsVal_wordBits, wordBits_length] at this

theorem wordBits_eq_testBit (w n : Nat) : wordBits w n = (List.range n).map fun i => w.testBit (n - 1 - i) := by
  unfold wordBits; simp

theorem wordBits_getD (w n i : Nat) (h : i < n) : (wordBits w n).getD i false = w.testBit (n - 1 - i) := by
  rw [wordBits_eq_testBit, Lists.getD_map_range h]

theorem byteBits_eq (b : Nat) : Spec.byteBits b = wordBits b 8 := rfl

theorem byteBits_length (b : Nat) : (Spec.byteBits b).length = 8 := wordBits_length b 8

theorem byteOfBits_eq_bitsVal (c : List Bool) : byteOfBits c = bitsVal (c ++ List.replicate (8 - c.length) false) := rfl

theorem byteOfBits_eq_mul (c : List Bool) : byteOfBits c = bitsVal c * 2 ^ (8 - c.length) := by
  rw [byteOfBits_eq_bitsVal, bitsVal_append, bitsVal_replicate_false, List.length_replicate, Nat.add_zero]

theorem byteOfBits_eq_of_length (c : List Bool) (h : c.length = 8) : byteOfBits c = bitsVal c := by
  rw [byteOfBits_eq_mul, h, Nat.sub_self, Nat.pow_zero, Nat.mul_one]

theorem pad8_length (c : List Bool) (h : c.length ≤ 8) : (c ++ List.replicate (8 - c.length) false).length = 8 := by
  rw [List.length_append, List.length_replicate]; omega

theorem byteOfBits_lt (c : List Bool) (h : c.length ≤ 8) : byteOfBits c < 256 := by
  have := bitsVal_lt (c ++ List.replicate (8 - c.length) false)
  rwa [pad8_length c h] at this

theorem byteOfBits_byteBits (b : Nat) (hb : b < 256) : byteOfBits (Spec.byteBits b) = b := by
  rw [byteOfBits_eq_of_length _ (byteBits_length b), byteBits_eq, bitsVal_wordBits]
  exact Nat.mod_eq_of_lt hb

theorem byteBits_byteOfBits (c : List Bool) (h : c.length ≤ 8) :
    Spec.byteBits (byteOfBits c) = c ++ List.replicate (8 - c.length) false := by
  have := wordBits_bitsVal (c ++ List.replicate (8 - c.length) false)
  rwa [pad8_length c h] at this

theorem byteOfBits_testBit (c : List Bool) (h : c.length ≤ 8) (j : Nat) (hj : j < 8) :
    (byteOfBits c).testBit (7 - j) = c.getD j false := by
  rw [← Lists.getD_append_replicate c (8 - c.length), ← byteBits_byteOfBits c h]
  exact (wordBits_getD (byteOfBits c) 8 j hj).symm

theorem byteOf_concat (l : List Bool) (b : Bool) : byteOf (l ++ [b]) = byteOf l ||| b.toNat * 2 ^ (7 - l.length) := by
  unfold byteOf; rw [List.zipIdx_append, List.foldl_append]; cases b <;> simp

theorem byteOf_eq (c : List Bool) : c.length ≤ 8 → byteOf c = byteOfBits c := by
  rw [byteOfBits_eq_mul]
  induction c using Lists.concat_induction with
  | nil => intro _; rfl
  | concat l b ih =>
    intro h
    rw [List.length_append, List.length_singleton] at h ⊢
    rw [byteOf_concat, ih (by omega), bitsVal_concat, show 8 - l.length = 7 - l.length + 1 by omega,
      show 8 - (l.length + 1) = 7 - l.length by omega]
    exact Bits.or_bit _ _ b

theorem _root_.M17.C01F.bitsOfBytes_length (bs : List Nat) : (bitsOfBytes bs).length = 8 * bs.length := by
  unfold bitsOfBytes
  induction bs with
  | nil => rfl
  | cons b bs ih => simp only [List.flatMap_cons, List.length_append, byteBits_length, ih, List.length_cons]; omega

theorem bitsOfBytes_getD (bs : List Nat) : ∀ i, (bitsOfBytes bs).getD i false = getBit bs i := by
  unfold bitsOfBytes getBit
  induction bs with
  | nil => intro i; simp
  | cons b bs ih =>
    intro i
    rw [List.flatMap_cons]
    by_cases hi : i < 8
    · rw [Lists.getD_append_left (by rw [byteBits_length]; exact hi), byteBits_eq, wordBits_getD b 8 i hi,
        (by omega : i / 8 = 0), (by omega : i % 8 = i)]
      rfl
    · rw [Lists.getD_append_right (by rw [byteBits_length]; omega), byteBits_length, ih,
        (by omega : i / 8 = (i - 8) / 8 + 1), (by omega : i % 8 = (i - 8) % 8), List.getD_cons_succ]

theorem _root_.M17.C01F.chunk_bitsOfBytes (bs : List Nat) : ∀ (k : Nat), k < bs.length →
    ((bitsOfBytes bs).drop (8 * k)).take 8 = Spec.byteBits (bs.getD k 0) := by
  intro k hk
  rw [bitsOfBytes, List.flatMap_def,
    Lists.chunk_flatten 8 (bs.map Spec.byteBits) (fun x hx => by obtain ⟨b, -, rfl⟩ := List.mem_map.mp hx; exact byteBits_length b) k
      (by simpa using hk),
    List.getElem_map, List.getElem_eq_getD 0]

theorem bytesOfBits_length (bits : List Bool) : (bytesOfBits bits).length = (bits.length + 7) / 8 := by
  unfold bytesOfBits; simp

theorem bytesOfBits_getD (bits : List Bool) (k : Nat) : (bytesOfBits bits).getD k 0 = byteOfBits ((bits.drop (8 * k)).take 8) := by
  unfold bytesOfBits
  by_cases hk : k < (bits.length + 7) / 8
  · exact Lists.getD_map_range hk
  · rw [Lists.getD_of_length_le (by simpa using hk), List.drop_of_length_le (by omega)]; rfl

theorem bytesOfBits_allBytes (bits : List Bool) : AllBytes (bytesOfBits bits) := by
  intro b hb
  obtain ⟨k, -, rfl⟩ := List.mem_map.mp hb
  exact byteOfBits_lt _ (List.length_take_le _ _)

theorem getBit_bytesOfBits (bits : List Bool) (i : Nat) : getBit (bytesOfBits bits) i = bits.getD i false := by
  unfold getBit
  rw [bytesOfBits_getD, byteOfBits_testBit _ (List.length_take_le _ _) (i % 8) (Nat.mod_lt _ (by decide)),
    Lists.getD_take (Nat.mod_lt _ (by decide)), Lists.getD_drop, Nat.div_add_mod]

theorem take_bitsOfBytes_bytesOfBits (bits : List Bool) : (bitsOfBytes (bytesOfBits bits)).take bits.length = bits := by
  apply Lists.list_ext_getD false bits.length (by rw [List.length_take, bitsOfBytes_length, bytesOfBits_length]; omega) rfl
  intro i hi
  rw [Lists.getD_take hi, bitsOfBytes_getD, getBit_bytesOfBits]

theorem bitsOfBytes_bytesOfBits (bits : List Bool) (h : bits.length % 8 = 0) : bitsOfBytes (bytesOfBits bits) = bits := by
  have := take_bitsOfBytes_bytesOfBits bits
  rwa [List.take_of_length_le (by rw [bitsOfBytes_length, bytesOfBits_length]; omega)] at this

theorem bytesOfBits_bitsOfBytes (bs : List Nat) (hb : AllBytes bs) : bytesOfBits (bitsOfBytes bs) = bs := by
  apply Lists.list_ext_getD 0 bs.length (by rw [bytesOfBits_length, bitsOfBytes_length]; omega) rfl
  intro k hk
  rw [bytesOfBits_getD, chunk_bitsOfBytes bs k hk, byteOfBits_byteBits _ (getD_lt_of_allBytes hb k)]

theorem bitsOfBytes_append (a b : List Nat) : bitsOfBytes (a ++ b) = bitsOfBytes a ++ bitsOfBytes b := List.flatMap_append

theorem bitsOfBytes_take (bs : List Nat) (k : Nat) : bitsOfBytes (bs.take k) = (bitsOfBytes bs).take (8 * k) := by
  induction bs generalizing k with
  | nil => simp [bitsOfBytes]
  | cons b bs ih =>
    cases k with
    | zero => rfl
    | succ k =>
      unfold bitsOfBytes at ih ⊢
      rw [List.take_succ_cons, List.flatMap_cons, List.flatMap_cons, ih, Nat.mul_succ, Nat.add_comm, ← byteBits_length b,
        List.take_length_add_append]

theorem pack_eq (bits : List Bool) : pack bits = bytesOfBits bits :=
  List.map_congr_left fun _ _ => byteOf_eq _ (List.length_take_le _ _)

theorem unpack_eq (bs : List Nat) : unpack bs = bitsOfBytes bs := by
  apply Lists.list_ext_getD false (8 * bs.length) (by simp [unpack]) (bitsOfBytes_length bs)
  intro i hi
  rw [bitsOfBytes_getD, unpack, Lists.getD_map_range hi]

theorem shiftOr_eq (l : List Bool) : l.length ≤ 8 → l.foldl (fun c b => ((c <<< 1) % 256) ||| b.toNat) 0 = bitsVal l := by
  induction l using Lists.concat_induction with
  | nil => intro _; rfl
  | concat l b ih =>
    intro h
    rw [List.length_append, List.length_singleton] at h
    have hv : bitsVal l < 2 ^ 7 := Nat.lt_of_lt_of_le (bitsVal_lt l) (Nat.pow_le_pow_right (by decide) (by omega))
    rw [List.foldl_append, ih (by omega), bitsVal_concat, List.foldl_cons, List.foldl_nil, Nat.shiftLeft_eq, Nat.mod_eq_of_lt (by omega)]
    simpa using Bits.or_bit (bitsVal l) 0 b

/-- the packing loop of the transmitters (`output_bitstream`, `conv_encode`, `make_bert_frame`) on `n` whole bytes -/
theorem pack_shiftOr (bits : List Bool) (n : Nat) (hn : 8 * n ≤ bits.length) :
    ((List.range n).map fun k => ((bits.drop (8 * k)).take 8).foldl (fun t b => ((t <<< 1) % 256) ||| b.toNat) 0) =
      (List.range n).map fun k => byteOfBits ((bits.drop (8 * k)).take 8) := by
  apply List.map_congr_left
  intro k hk
  have hk' := List.mem_range.mp hk
  have hl : ((bits.drop (8 * k)).take 8).length = 8 := by rw [List.length_take, List.length_drop]; omega
  rw [byteOfBits_eq_of_length _ hl, shiftOr_eq _ (Nat.le_of_eq hl)]

/-- the two bytes of a 16-bit field (frame number, CRC) as the code and as the specification write them -/
theorem be16_bytes (v : Nat) : [(v >>> 8) &&& 255, v &&& 255] = [v / 256 % 256, v % 256] := by
  have e : (255 : Nat) = 2 ^ 8 - 1 := by decide
  rw [e, Nat.and_two_pow_sub_one_eq_mod, Nat.and_two_pow_sub_one_eq_mod, Nat.shiftRight_eq_div_pow]

/-! frame counters of the two transmit loops (`uint16_t` frame number that skips the end-of-stream bit, LICH index 0..5) -/

theorem next_fn (q : Nat) : (if (q % 0x8000 + 1) % 65536 = 0x8000 then 0 else (q % 0x8000 + 1) % 65536) = (q + 1) % 0x8000 := by
  split <;> omega

theorem next_lich (q : Nat) : (if q % 6 + 1 = 6 then 0 else q % 6 + 1) = (q + 1) % 6 := by split <;> omega

theorem eos_bit (fn : Nat) (h : fn < 0x8000) : (fn ||| 0x8000) % 65536 = fn + 0x8000 := by
  have := Nat.two_pow_add_eq_or_of_lt (i := 15) (b := fn) (by simpa using h) 1
  rw [Nat.or_comm]
  simp only [Nat.mul_one] at this
  rw [show (0x8000 : Nat) = 2 ^ 15 from rfl, ← this]
  omega

end M17.Spec.Tx
