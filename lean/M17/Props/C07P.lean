/-
C07 / application glue — packet reassembly in m17-demod (`decode_packet`): a packet cut into 25-byte segments as the M17 packet sender cuts
it (segment counter in the control byte, EOF flag + byte count on the last segment) is reassembled exactly, for every content and every
length up to 33 segments, after whatever the link setup frame left in the buffer; the last call's result is the X.25 check of exactly
those bytes.
-/
import M17.Model.AppPacket

namespace M17.C07P
open M17.AppPacket

/-- the sender's segmentation: full segments numbered k, k+1, …, then the last one with EOF and its byte count (fuel = an upper bound on the number of segments) -/
def segments : Nat → Nat → List Nat → List (List Nat)
  | 0, _, _ => []
  | f+1, k, d =>
    if d.length ≤ 25 then [d ++ List.replicate (25 - d.length) 0 ++ [128 + 4 * d.length]]
    else (d.take 25 ++ [4 * k]) :: segments f (k + 1) (d.drop 25)

theorem step_eq {s : PState} {p : List Nat} {c : Nat} (h : p.length = 25) :
    step s (p ++ [c]) =
      if 128 ≤ c then (⟨s.buf ++ p.take (min (c % 128 / 4) 25), s.ctr⟩, x25 (s.buf ++ p.take (min (c % 128 / 4) 25)) == 0x0f47)
      else if c % 128 / 4 ≠ s.ctr then (s, false) else (⟨s.buf ++ p, s.ctr + 1⟩, true) := by
  have hc : (p ++ [c]).getD 25 0 = c := by rw [← h]; simp
  have ht (n : Nat) (hn : n ≤ 25) : (p ++ [c]).take n = p.take n := List.take_append_of_le_length (h ▸ hn)
  unfold step
  simp only [hc, ht _ (Nat.min_le_right _ 25), ht 25 (Nat.le_refl _), List.take_of_length_le (Nat.le_of_eq h)]

theorem run_segments : ∀ (f k : Nat) (d pre : List Nat), d.length < 25 * f → d.length + 25 * k ≤ 25 * 33 →
    ∃ c m, run ⟨pre, k⟩ (segments f k d) = (⟨pre ++ d, c⟩, List.replicate m true ++ [x25 (pre ++ d) == 0x0f47]) := by
  intro f
  induction f with
  | zero => intro k d pre hf; omega
  | succ f ih =>
    intro k d pre hf hk
    unfold segments
    split
    next hd =>
      refine ⟨k, 0, ?_⟩
      rw [run, step_eq (by simp; omega), if_pos (by omega), (by omega : min ((128 + 4 * d.length) % 128 / 4) 25 = d.length),
        List.take_left]
      rfl
    next hd =>
      obtain ⟨c, m, h⟩ := ih (k + 1) (d.drop 25) (pre ++ d.take 25) (by rw [List.length_drop]; omega) (by rw [List.length_drop]; omega)
      rw [List.append_assoc, List.take_append_drop] at h
      refine ⟨c, m + 1, ?_⟩
      rw [run, step_eq (by simp; omega), if_neg (by omega), if_neg (by simp only [ne_eq, Decidable.not_not]; omega)]
      simp only [h]
      rfl

/-- **reassembly**: the buffer after the last segment is what was there before followed by exactly the packet's bytes, and the result of
    the last call is the frame-check of exactly those bytes; every earlier call returns true -/
theorem reassembly : ∀ (f k : Nat) (d pre : List Nat), d.length / 25 < f → k + (d.length - 1) / 25 ≤ 32 →
    (run ⟨pre, k⟩ (segments f k d)).1.buf = pre ++ d ∧
    (run ⟨pre, k⟩ (segments f k d)).2.getLast? = some (x25 (pre ++ d) == 0x0f47) ∧
    (∀ r ∈ (run ⟨pre, k⟩ (segments f k d)).2.dropLast, r = true) := by
  intro f k d pre hf hk
  obtain ⟨c, m, h⟩ := run_segments f k d pre (by omega) (by omega)
  rw [h]
  exact ⟨rfl, List.getLast?_concat, fun r hr => (List.mem_replicate.mp (List.dropLast_concat ▸ hr)).2⟩

example : (run ⟨[], 0⟩ (segments 4 0 (List.range 60))).1.buf = List.range 60 := by decide

/-- the counter is 5 bits wide: a 34th segment is rejected as a sequence error (so 33 segments = 825 bytes is the limit of the statement) -/
example : (step ⟨[], 32⟩ (List.replicate 25 0 ++ [4 * 32 % 128])).2 = false := by decide

end M17.C07P
