/-
C05 / C01 — late entry: a receiver that missed the link setup frame collects the LICH fragments of a clean transmission,
in ANY order and with ANY repetitions, and reports the link setup data bit-exact at the very frame that completes the set.

Composes `M17.C01F.lich_roundtrip` (the LICH of a specification-encoded stream frame is unpacked exactly) with the collection
logic of `decode_lich` (mask, slots, CRC gate), by induction over the list of received frames.
-/
import M17.Props.C01F

namespace M17.C05S
open M17.Dec M17.C05 M17.C01F M17.Cond

def Covers (S : List Nat) : Prop := ∀ i, i < 6 → i ∈ S

/-- the decoder is waiting for link setup and has collected exactly the positions in `S`, all from `lsf` -/
def Inv (lsf : List Nat) (S : List Nat) (σ : DState) : Prop :=
  σ.mode = .lsf ∧ σ.lsfBuf.length = 30 ∧ σ.mask < 256 ∧
  (∀ i, i < 6 → (σ.mask.testBit i = true ↔ i ∈ S)) ∧ (∀ i, i ∈ S → i < 6 → slot σ.lsfBuf i = slot lsf i)

/-- `frames` are clean soft images (magnitudes `lo`..7) of stream frames of one transmission with link setup data `lsf`, carrying
    the LICH fragments numbered `ns` (each 0..5) and arbitrary 18-byte payloads -/
def Frames (lo : Int) (lsf : List Nat) : List Nat → List (List Int) → Prop
  | n :: ns, f :: fs => n < 6 ∧ (∃ data : List Nat, data.length = 18 ∧ SoftImage lo (Spec.Tx.streamFrameBits lsf n data) f) ∧ Frames lo lsf ns fs
  | [], [] => True
  | _, _ => False

def runState (σ : DState) (frames : List (List Int)) : DState := frames.foldl (fun s f => (step s .stream f true).state) σ

def runCalls : DState → List (List Int) → List Callback
  | _, [] => []
  | σ, f :: fs => (step σ .stream f true).calls ++ runCalls (step σ .stream f true).state fs

theorem mask_testBit {m fn i : Nat} (hi : i < 8) : ((m ||| 2 ^ fn) % 256).testBit i = (m.testBit i || i == fn) := by
  rw [show 256 = 2 ^ 8 from rfl, Nat.testBit_mod_two_pow, Nat.testBit_or, Nat.testBit_two_pow, decide_eq_true hi, Bool.true_and]
  congr 1
  exact decide_eq_decide.mpr eq_comm

/-- `mask_testBit` and `Bits.low_bits_set` over all 256 masks and the six fragment numbers, as a Boolean -/
def maskOK : Bool := (List.range 256).all fun m => (List.range 6).all fun fn =>
  let m' := (m ||| 2 ^ fn) % 256
  decide (m' < 256) && ((List.range 6).all fun i => m'.testBit i == (m.testBit i || i == fn)) &&
  (decide (m' % 64 = 63) == (List.range 6).all fun i => m'.testBit i)
theorem mask_ok : maskOK = true := by
  simp only [maskOK, List.all_eq_true, List.mem_range, Bool.and_eq_true, decide_eq_true_eq, beq_iff_eq]
  intro m _ fn _
  refine ⟨⟨Nat.mod_lt _ (by decide), fun i hi => mask_testBit (by omega)⟩, ?_⟩
  rw [Bool.eq_iff_iff]
  simpa using Bits.low_bits_set ((m ||| 2 ^ fn) % 256) 6

/-- what `decode_lich` does with fragment `n` of `lsf`, spelled out -/
theorem step_fragment (lo : Int) (hlo : 1 ≤ lo) (lsf : List Nat) (hl : lsf.length = 30) (hb : Bytes.AllBytes lsf)
    (σ : DState) (hm : σ.mode = .lsf) (n : Nat) (hn : n < 6) (data : List Nat) (hd : data.length = 18) (f : List Int) (cb : Bool)
    (hr : SoftImage lo (Spec.Tx.streamFrameBits lsf n data) f) :
    step σ .stream f cb =
      (let cbk : Callback := ⟨.lich, slot lsf n ++ [n * 32], 0⟩
       let buf := setSlot σ.lsfBuf n (slot lsf n)
       let mask := (σ.mask ||| 2 ^ n) % 256
       if mask % 64 ≠ 63 then
         { state := { σ with mask := mask, lsfBuf := buf }, calls := [cbk], result := .incomplete, cost := some sizeMax }
       else if Spec.crc16 buf = 0 then
         { state := { mode := .stream, mask := 0, lsfBuf := buf }, calls := [cbk, ⟨.lsf, buf, 0⟩], result := .ok, cost := some 0 }
       else
         { state := { σ with mask := mask, lsfBuf := buf }, calls := [cbk], result := .incomplete, cost := some 128 }) := by
  have hu : unpackLich (deinterleaveSoft (randSoft f)) = some (slot lsf n ++ [n * 32]) := by
    have := lich_roundtrip lo hlo lsf hl hb n data hd f hr
    rwa [Nat.mod_eq_of_lt hn, Nat.mod_eq_of_lt (by omega : n < 8)] at this
  have hsl := slot_length lsf n hl (by omega)
  have hfn : ((slot lsf n ++ [n * 32]).getD 5 0 >>> 5) % 8 = n := by
    rw [Lists.getD_append_right (by omega), hsl, Nat.shiftRight_eq_div_pow]
    show n * 32 / 2 ^ 5 % 8 = n
    omega
  have htk : (slot lsf n ++ [n * 32]).take 5 = slot lsf n := List.take_left' hsl
  rw [step_stream_lsf hm]
  unfold decodeLich
  rw [hu]
  have hin : ¬ n > 5 := by omega
  simp only [hfn, htk, C05.gen_maxLichFragment, crcOf_is_m17_crc, hin, if_false]

theorem inv_store (lsf : List Nat) (hl : lsf.length = 30) {S : List Nat} {σ : DState} (hI : Inv lsf S σ) (n : Nat) (hn : n < 6) :
    Inv lsf (n :: S) { σ with mask := (σ.mask ||| 2 ^ n) % 256, lsfBuf := setSlot σ.lsfBuf n (slot lsf n) } ∧
    (((σ.mask ||| 2 ^ n) % 256) % 64 = 63 ↔ Covers (n :: S)) := by
  obtain ⟨hm, hbl, -, hbits, hslots⟩ := hI
  have hbit : ∀ i, i < 6 → (((σ.mask ||| 2 ^ n) % 256).testBit i = true ↔ i ∈ n :: S) := by
    intro i hi
    rw [mask_testBit (by omega), Bool.or_eq_true, beq_iff_eq, hbits i hi, List.mem_cons, or_comm]
  exact ⟨⟨hm, setSlot_length hbl (by omega) (slot_length lsf n hl (by omega)), Nat.mod_lt _ (by decide), hbit,
      fun i him hi => slot_setSlot_slot hbl hl (by omega) fun hin => hslots i ((List.mem_cons.mp him).resolve_left hin) hi⟩,
    (Bits.low_bits_set _ 6).trans (forall_congr' fun i => imp_congr_right (hbit i))⟩

theorem covers_subset {S T : List Nat} (h : S ⊆ T) (hS : Covers S) : Covers T := fun i hi => h (hS i hi)

theorem covers_mono (a : Nat) (S : List Nat) (h : Covers S) : Covers (a :: S) := covers_subset (List.subset_cons_self a S) h

/-- **while the set is incomplete the decoder keeps collecting**: after any run of fragments of `lsf` that does not yet cover all six
    positions, the collected state is exactly "the positions seen, with `lsf`'s bytes", and only LICH callbacks were made -/
theorem run_incomplete (lo : Int) (hlo : 1 ≤ lo) (lsf : List Nat) (hl : lsf.length = 30) (hb : Bytes.AllBytes lsf) :
    ∀ (pre : List Nat) (fpre : List (List Int)) (S : List Nat) (σ : DState), Inv lsf S σ → Frames lo lsf pre fpre → ¬ Covers (pre ++ S) →
    Inv lsf (pre.reverse ++ S) (runState σ fpre) ∧ ∀ c ∈ runCalls σ fpre, c.ftype = .lich := by
  intro pre fpre
  fun_induction Frames lo lsf pre fpre with
  | case1 n pre f fs ih =>
    intro S σ hI ⟨hn, ⟨data, hd, hr⟩, hF'⟩ hnc
    have hnS : ¬ Covers (n :: S) := mt (covers_subset (by grind)) hnc
    obtain ⟨hI', h63⟩ := inv_store lsf hl hI n hn
    have hs := step_fragment lo hlo lsf hl hb σ hI.1 n hn data hd f true hr
    rw [if_pos (mt h63.mp hnS)] at hs
    obtain ⟨r1, r2⟩ := ih (n :: S) _ hI' hF' (mt (covers_subset (by grind)) hnc)
    rw [List.reverse_cons, List.append_assoc]
    simp only [runState, runCalls, List.foldl_cons, hs, List.mem_append, List.mem_singleton]
    refine ⟨r1, fun c hcm => ?_⟩
    rcases hcm with rfl | h
    · rfl
    · exact r2 c h
  | case2 => exact fun S σ hI _ _ => ⟨hI, fun c hc => by simp [runCalls] at hc⟩
  | case3 => exact fun _ _ _ hF => hF.elim

/-- **late entry**: from a decoder that is waiting for link setup with nothing collected, after ANY sequence of clean stream frames of one
    transmission (fragments in any order, with any repetitions) that leaves exactly one position missing, the frame carrying that position
    makes the decoder report the link setup data `lsf` bit-exact (LICH callback, then LSF callback with cost 0), return OK, clear the
    collection and enter stream mode — provided `lsf` passes the CRC, as every transmitted LSF does -/
theorem late_entry (lo : Int) (hlo : 1 ≤ lo) (lsf : List Nat) (hl : lsf.length = 30) (hb : Bytes.AllBytes lsf) (hcrc : Spec.crc16 lsf = 0)
    (σ : DState) (hI : Inv lsf [] σ) (pre : List Nat) (fpre : List (List Int)) (hF : Frames lo lsf pre fpre)
    (n : Nat) (hn : n < 6) (data : List Nat) (hd : data.length = 18) (f : List Int) (cb : Bool)
    (hr : SoftImage lo (Spec.Tx.streamFrameBits lsf n data) f)
    (hnot : ¬ Covers pre) (hcov : Covers (n :: pre)) :
    step (runState σ fpre) .stream f cb =
      { state := { mode := .stream, mask := 0, lsfBuf := lsf },
        calls := [⟨.lich, slot lsf n ++ [n * 32], 0⟩, ⟨.lsf, lsf, 0⟩], result := .ok, cost := some 0 } := by
  obtain ⟨hI1, -⟩ := run_incomplete lo hlo lsf hl hb pre fpre [] σ hI hF (by simpa using hnot)
  simp only [List.append_nil] at hI1
  have h63 := (inv_store lsf hl hI1 n hn).2.mpr (covers_subset (by simp) hcov)
  obtain ⟨hm, hbl, -, -, hslots⟩ := hI1
  have hbuf : setSlot (runState σ fpre).lsfBuf n (slot lsf n) = lsf :=
    setSlot_completes hbl hl (by omega) fun i hi hin =>
      hslots i (List.mem_reverse.mpr ((List.mem_cons.mp (hcov i (by omega))).resolve_left hin)) (by omega)
  rw [step_fragment lo hlo lsf hl hb _ hm n hn data hd f cb hr]
  simp only [h63, ne_eq, not_true_eq_false, if_false, hbuf, hcrc, if_true]

/-- the state after construction (and after any failed LSF-sync frame) satisfies the starting condition -/
example (lsf : List Nat) : Inv lsf [] Dec.init := by
  refine ⟨rfl, by simp [Dec.init], by decide, ?_, ?_⟩
  · intro i _; simp [Dec.init]
  · intro i hi; simp at hi

example : ¬ Covers [0, 1, 2, 3, 4] ∧ Covers [5, 0, 1, 2, 3, 4] := by
  unfold Covers; decide

end M17.C05S
