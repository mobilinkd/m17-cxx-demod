/-
C19 — the IIR filter realises its difference equation at EVERY time index, for EVERY input sequence and from
EVERY internal state (no "from rest" hypothesis), in exact arithmetic over any commutative ring.
-/
import M17.Model.Dsp

namespace M17.C19I
open M17.Dsp Lean.Grind

variable {α : Type} [CommRing α]

def iirRun (f : Iir3 α) : List α → Iir3 α × List α
  | [] => (f, [])
  | x :: xs => let s := f.step x; let r := iirRun s.1 xs; (r.1, s.2 :: r.2)

theorem iirRun_length (xs : List α) : ∀ f : Iir3 α, (iirRun f xs).2.length = xs.length := by
  induction xs with
  | nil => intro f; rfl
  | cons x xs ih => intro f; simp [iirRun, ih]

theorem step_coeffs (f : Iir3 α) (x : α) : (f.step x).1.a = f.a ∧ (f.step x).1.b = f.b := ⟨rfl, rfl⟩

/-- three consecutive calls from ANY state satisfy the difference equation
    y[n] + a1·y[n−1] + a2·y[n−2] = b0·x[n] + b1·x[n−1] + b2·x[n−2] -/
theorem iir_three_any_state (f : Iir3 α) (x0 x1 x2 : α) :
    let s0 := f.step x0; let s1 := s0.1.step x1; let s2 := s1.1.step x2
    s2.2 + f.a.2.1 * s1.2 + f.a.2.2 * s0.2 = f.b.1 * x2 + f.b.2.1 * x1 + f.b.2.2 * x0 := by
  simp only [Iir3.step]
  grind

/-- every window of three consecutive samples of every run, from every initial state, satisfies the difference equation -/
theorem iir_difference_equation_all (xs : List α) : ∀ (f : Iir3 α) (n : Nat), n + 2 < xs.length →
    (iirRun f xs).2.getD (n + 2) 0 + f.a.2.1 * (iirRun f xs).2.getD (n + 1) 0 + f.a.2.2 * (iirRun f xs).2.getD n 0 =
      f.b.1 * xs.getD (n + 2) 0 + f.b.2.1 * xs.getD (n + 1) 0 + f.b.2.2 * xs.getD n 0 := by
  induction xs with
  | nil => intro f n h; simp at h
  | cons x0 xs ih =>
    intro f n h
    cases n with
    | succ m =>
      have := ih (f.step x0).1 m (by simp at h; omega)
      rw [(step_coeffs f x0).1, (step_coeffs f x0).2] at this
      simpa [iirRun, List.getD_cons_succ] using this
    | zero =>
      match xs, h with
      | x1 :: x2 :: rest, _ =>
        have := iir_three_any_state f x0 x1 x2
        simpa [iirRun] using this

/-- the first two outputs from rest: y[0] = b0·x[0], y[1] + a1·y[0] = b0·x[1] + b1·x[0] (zero initial conditions) -/
theorem iir_start_from_rest (f : Iir3 α) (x0 x1 : α) (hrest : f.w1 = 0 ∧ f.w2 = 0) :
    let s0 := f.step x0; let s1 := s0.1.step x1
    s0.2 = f.b.1 * x0 ∧ s1.2 + f.a.2.1 * s0.2 = f.b.1 * x1 + f.b.2.1 * x0 := by
  obtain ⟨h1, h2⟩ := hrest
  simp only [Iir3.step, h1, h2]
  constructor <;> grind

example : (iirRun ({ b := (1, 2, 3), a := (1, -1, 2), w1 := 5, w2 := -7 } : Iir3 Int) [1, 2, 3, 4]).2 = [9, 67, 59, -59] := by decide

end M17.C19I
