/-
C20 — decision logic of m17-demod's link report, for all inputs.
-/
import M17.Model.App
import M17.Spec.Tx
import M17.Props.C17

namespace M17.C20
open M17.App

/-- the TYPE field the transmitter builds for a voice stream is reported as a voice stream, for every CAN -/
theorem type_report_voice (can : Nat) : typeName (Spec.Tx.voiceType can) = "STR:V/V" := by
  unfold typeName Spec.Tx.voiceType
  have h1 : (5 + 128 * can) % 2 = 1 := by omega
  have h2 : (5 + 128 * can) / 2 % 4 = 2 := by omega
  simp only [h1, ↓reduceIte, h2]
  decide

/-- … and the CAN printed is the transmitter's -/
theorem can_report (can : Nat) (h : can < 16) : canField (Spec.Tx.voiceType can) = can := by
  unfold canField Spec.Tx.voiceType; omega

/-- … and the LSF handler never enters packet mode for it: no packet diagnostics for a voice stream -/
theorem voice_lsf_is_stream (can : Nat) :
    isPacket (Spec.Tx.voiceType can % 256) = false ∧ packetDiag (Spec.Tx.voiceType can % 256) = "" := by
  have h1 : (Spec.Tx.voiceType can % 256) % 2 = 1 := by unfold Spec.Tx.voiceType; omega
  have hp : isPacket (Spec.Tx.voiceType can % 256) = false := by unfold isPacket; rw [h1]; decide
  exact ⟨hp, by unfold packetDiag; rw [hp]; rfl⟩

/-- the report classifies every TYPE value as one of seven texts, and the CAN field is 0..15 -/
theorem type_report_total (t : Nat) :
    typeName t ∈ ["STR:UNK", "STR:D/D", "STR:V/V", "STR:V/D", "PKT:UNK", "PKT:RAW", "PKT:ENC"] ∧ canField t < 16 := by
  refine ⟨?_, Nat.mod_lt _ (by decide)⟩
  have h4 : t / 2 % 4 < 4 := Nat.mod_lt _ (by decide)
  unfold typeName
  generalize t / 2 % 4 = k at h4
  match k, h4 with
  | 0, _ | 1, _ | 2, _ | 3, _ => split <;> decide

/-- the callsign printed for an address is the callsign that was encoded (C17's round trip, through the way the
    application prints a `call_t`) -/
theorem callsign_report (cs : List Nat) (hv : ∀ c ∈ cs, C17.validChar c = true) (h1 : 1 ≤ cs.length) (h9 : cs.length ≤ 9) :
    printed (Call.decode (Call.encode (Call.pad cs))) = cs := by
  rw [(C17.roundtrip cs hv h1 h9).1]
  unfold printed Call.pad
  rw [List.filter_append, List.filter_eq_self.mpr fun c hc => decide_eq_true (C17.valid_ne_zero (hv c hc)),
    List.filter_eq_nil_iff.mpr fun a ha => by simp [(List.mem_replicate.mp ha).2], List.append_nil]

/-- audio output: 640 bytes per delivered stream frame, whatever the costs and the noise-blanker setting -/
theorem audio_bytes_multiple_of_640 (nb : Bool) (costs : List Nat) :
    (costs.map (audioBytes nb)).sum = 640 * costs.length := by
  induction costs with
  | nil => rfl
  | cons c cs ih =>
    simp only [List.map_cons, List.sum_cons, List.length_cons, ih]
    unfold audioBytes; split <;> omega

end M17.C20
