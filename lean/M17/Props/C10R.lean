/-
C10 — the two conditioning stages composed in the order the modem uses them: the transmitter interleaves and then
randomizes, the receiver de-randomizes and then de-interleaves.
-/
import M17.Props.C10

namespace M17.C10R
open M17.Cond M17.C10

theorem interleave_mem (xs : List Int) (h : xs.length = 368) : ∀ y ∈ interleaveSoft xs, y ∈ xs := by
  intro y hy
  rw [interleaveSoft_eq, deinterleaveSoft, gather, K_eq] at hy
  obtain ⟨i, -, rfl⟩ := List.mem_map.mp hy
  rw [List.getD_eq_getElem?_getD, List.getElem?_eq_getElem (by rw [h]; exact index_lt i)]
  exact List.getElem_mem _

/-- receive chain ∘ transmit chain = identity on every 368-value frame of `int8_t` soft values -/
theorem conditioning_roundtrip (xs : List Int) (h : xs.length = 368) (hb : ∀ x ∈ xs, -128 ≤ x ∧ x ≤ 127) :
    deinterleaveSoft (randSoft (randSoft (interleaveSoft xs))) = xs := by
  rw [rand_soft_involutive _ (fun y hy => hb y (interleave_mem xs h y hy))]
  exact deinterleave_interleave_soft xs h

example : (List.replicate 368 (5 : Int)).length = 368 ∧ ∀ x ∈ List.replicate 368 (5 : Int), -128 ≤ x ∧ x ≤ 127 := by
  refine ⟨List.length_replicate, ?_⟩
  intro x hx
  rw [List.eq_of_mem_replicate hx]; omega

end M17.C10R
