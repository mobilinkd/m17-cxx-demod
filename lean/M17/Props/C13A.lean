/-
C13 — audio content of the transmit plan: every frame `transmit()` hands to the encoder carries exactly the corresponding
320-sample window of the input (the last, partial window zero padded; then one all-zero block) — nothing stale from an earlier
block, for every audio length.  Together with `C13.plan_numbering` this is `plan = specPlan`.
-/
import M17.Props.C13

namespace M17.C13A
open M17.Mod M17.C13

/-- **audio content of every frame, for every audio length**: frame `k < n` (n = ⌈len/320⌉) carries the `k`-th 320-sample window of the
    input, the last one zero padded — exactly `Mod.blocks` (the all-zero block of the final frame is in `C13.plan_numbering`) -/
theorem plan_audio (samples : List Int) (k : Nat) (hk : k < (samples.length + 319) / 320) :
    ((plan samples).getD k (0, 0, [])).2.2 = (blocks samples).getD k [] := by
  rw [plan_eq, Lists.getD_append_left (by rw [List.length_map, List.length_range]; exact hk), Lists.getD_map_range hk,
    blocks_eq, Lists.getD_map_range hk]

/-- **the transmit loop implements the specification's plan** — same frame numbers, same LICH fragment indices, same audio blocks, same
    final end-of-stream frame — for every input length -/
theorem plan_eq_specPlan (samples : List Int) : plan samples = specPlan samples := by
  rw [plan_eq]
  unfold specPlan
  rw [blocks_eq]
  simp only
  generalize List.replicate 320 (0 : Int) = Z
  generalize (samples.length + 319) / 320 = n
  rw [List.zipIdx_append, List.map_append, List.length_append, List.length_map, List.length_range]
  congr 1
  · apply List.ext_getElem (by simp)
    intro k h1 h2
    have hk : k < n := by simpa using h2
    simp [Nat.ne_of_lt hk]
  · simp

example : (plan [5]).map (fun t => (t.1, t.2.1, t.2.2.take 2)) = [(0, 0, [5, 0]), (0x8001, 1, [0, 0])] := by decide

end M17.C13A
