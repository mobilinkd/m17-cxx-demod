/-
C15 — the queue is a bounded FIFO under every thread interleaving: capacity never exceeded, every accepted item
handed to exactly one get in put-completion order, nothing accepted is lost (not by close either), puts rejected
once the queue is not open; every completed call is a step of the sequential specification.
-/
import M17.Model.Queue
import M17.Gen.Queue

namespace M17.C15
open M17.Q

def Inv (s : Sys) : Prop :=
  s.size = s.items.length ∧ s.items.length ≤ s.cap ∧ s.putLog = s.getLog ++ s.items ∧
  (s.st = .closing → s.items ≠ [])

theorem step_cases (s s' : Sys) (c : Choice) (hs : step s c = some s') :
    (∃ t p, s' = setPc s t p) ∨ (∃ t v, s.size ≠ s.cap ∧ s' = putTail s t v) ∨
    (∃ t x xs, s.items = x :: xs ∧ s' = getTail s t x xs) ∨
    (∃ t, s' = { setPc s t (.done true none) with st := if s.items = [] then .closed else .closing }) := by
  unfold step at hs
  grind

theorem step_cap {s s' : Sys} {c : Choice} (hs : step s c = some s') : s'.cap = s.cap := by
  rcases step_cases s s' c hs with ⟨t, p, rfl⟩ | ⟨t, v, -, rfl⟩ | ⟨t, x, xs, -, rfl⟩ | ⟨t, rfl⟩
  · rfl
  · unfold putTail; split <;> rfl
  · rfl
  · rfl

theorem step_inv (s s' : Sys) (c : Choice) (h : Inv s) (hs : step s c = some s') : Inv s' := by
  unfold Inv at *
  rcases step_cases s s' c hs with ⟨t, p, rfl⟩ | ⟨t, v, hf, rfl⟩ | ⟨t, x, xs, hi, rfl⟩ | ⟨t, rfl⟩
  · exact h
  · -- a put is accepted only by an open queue that is not full; item and log entry go to the same end
    grind [putTail, setPc]
  · -- a get moves the head of the queue to the end of the get log; the last item out of a closing queue closes it
    grind [getTail, setPc]
  · -- close leaves the queue closing only if something is queued
    grind [setPc]

theorem runAll_induct (P : Sys → Prop) (hstep : ∀ s s' c, P s → step s c = some s' → P s') (cs : List Choice) :
    ∀ (s s' : Sys), P s → runAll s cs = some s' → P s' := by
  induction cs with
  | nil => intro s s' h hr; cases hr; exact h
  | cons c cs ih =>
    intro s s' h hr
    simp only [runAll] at hr
    cases hstep' : step s c with
    | none => simp [hstep'] at hr
    | some s1 =>
      simp only [hstep', Option.bind_some] at hr
      exact ih s1 s' (hstep s s1 c h hstep') hr

/-- **every reachable state, for any number of threads, any programs, any schedule** -/
theorem reachable_inv (cs : List Choice) : ∀ (s s' : Sys), Inv s → runAll s cs = some s' → Inv s' :=
  runAll_induct Inv step_inv cs

/-- initial state: empty open queue of capacity `cap`, any threads with any first calls -/
def initSys (cap : Nat) (pcs : List Pc) : Sys :=
  { cap := cap, items := [], size := 0, st := .opn, pcs := pcs, putLog := [], getLog := [] }

/-- **capacity and FIFO for every schedule**: the queue never holds more than `cap` items, and the sequence of values
    accepted by put equals the sequence handed out by get followed by what is still queued — so each accepted item is
    delivered at most once, in put-completion order (hence per-producer order), and nothing accepted is ever dropped -/
theorem fifo_all_schedules (cap : Nat) (pcs : List Pc) (cs : List Choice) (s : Sys)
    (h : runAll (initSys cap pcs) cs = some s) :
    s.items.length ≤ cap ∧ s.putLog = s.getLog ++ s.items := by
  obtain ⟨-, hcap, hlog, -⟩ := reachable_inv cs _ s (by simp [Inv, initSys]) h
  have hc : s.cap = cap := runAll_induct (·.cap = cap) (fun _ _ _ ha hs => (step_cap hs).trans ha) cs _ s rfl h
  exact ⟨hc ▸ hcap, hlog⟩

/-- **close never discards anything, and a queue that is not open accepts nothing** -/
theorem not_open_rejects_puts (s s' : Sys) (c : Choice) (hs : step s c = some s') (hst : s.st ≠ .opn) :
    s'.putLog = s.putLog ∧ s'.st ≠ .opn := by
  rcases step_cases s s' c hs with ⟨t, p, rfl⟩ | ⟨t, v, hf, rfl⟩ | ⟨t, x, xs, hi, rfl⟩ | ⟨t, rfl⟩
  · exact ⟨rfl, hst⟩
  · grind [putTail, setPc]
  · grind [getTail, setPc]
  · grind [setPc]

theorem close_keeps_items (s s' : Sys) (t : Nat) (hp : s.pcs.getD t .idle = .closeStart) (hs : step s (.run t) = some s') :
    s'.items = s.items ∧ s'.putLog = s.putLog ∧ s'.getLog = s.getLog ∧ s'.st ≠ .opn := by
  unfold step at hs
  simp only [hp] at hs
  cases hs
  simp [setPc]
  split <;> simp

/-! ## every completed call is a step of the sequential bounded-FIFO specification -/

def abs (s : Sys) : BQ := { cap := s.cap, items := s.items, st := s.st }

/-- the lock-held segment in which a `put` is accepted is `BQ.apply (put v)` -/
theorem put_accept_refines (s : Sys) (t v : Nat) (h : Inv s) (hfull : s.size ≠ s.cap) (ho : s.st = .opn) :
    BQ.apply (abs s) (.put v) = some (abs (putTail s t v), true, none) := by
  obtain ⟨h1, h2, -, -⟩ := h
  unfold BQ.apply abs putTail
  have : ¬ s.items.length = s.cap := by omega
  simp [this, ho, setPc]

theorem put_reject_refines (s : Sys) (v : Nat) (hn : s.st ≠ .opn) :
    BQ.apply (abs s) (.put v) = some (abs s, false, none) := by
  simp [BQ.apply, abs, hn]

theorem get_refines (s : Sys) (t x : Nat) (xs : List Nat) (hi : s.items = x :: xs) :
    BQ.apply (abs s) .get = some (abs (getTail s t x xs), true, some x) := by
  unfold BQ.apply abs getTail
  simp [hi, setPc]

theorem get_closed_refines (s : Sys) (hi : s.items = []) (hc : s.st = .closed) :
    BQ.apply (abs s) .get = some (abs s, false, none) := by
  unfold BQ.apply abs; simp [hi, hc]

/-- conflicting accesses to a plain data member (`queue_`, `size_`, `state_`) are both made with `mutex_` held -/
def raceFree (tbl : List (String × String × Bool × Bool)) : Bool :=
  tbl.all fun a => tbl.all fun b =>
    -- same member, at least one write  ⇒  both under the lock
    !(a.2.1 == b.2.1 && (a.2.2.1 || b.2.2.1)) || (a.2.2.2 && b.2.2.2)

/-- **conflicting member accesses in queue.h (as extracted from the current source) are lock-protected**;
    with the C++ memory model's "conflicting accesses ordered by one mutex" this is data-race freedom -/
theorem race_free : raceFree Gen.queueAccess = true := by decide +kernel

theorem access_table_nonempty : Gen.queueAccess.length ≥ 20 ∧
    (Gen.queueAccess.any fun a => a.1 == "is_open" && a.2.1 == "state_") = true ∧
    (Gen.queueAccess.any fun a => a.1 == "close" && a.2.1 == "state_" && a.2.2.1) = true := by decide +kernel

end M17.C15
