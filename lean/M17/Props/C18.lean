/-
C18 — PRBS9/BERT: maximal-length generator, lock within 27 bits, exact error count.
-/
import M17.Model.Prbs
import M17.Lemmas.Bits
import M17.Lemmas.List

namespace M17.C18
open M17.Prbs

/-- taps 9 and 5 (x^9 + x^5 + 1), 9-bit mask, lock after 18 good bits, unlock at 25 errors in 128, start state 1 -/
theorem gen_consts : Gen.prbsTap1 = 8 ∧ Gen.prbsTap2 = 4 ∧ Gen.prbsMask = 511 ∧ Gen.prbsLockCount = 18 ∧
    Gen.prbsUnlockCount = 25 ∧ Gen.prbsInitState = 1 ∧ Gen.prbsHistBits = 128 := by decide

theorem shiftIn_eq (s : Nat) (b : Bool) : shiftIn s b = (2 * s + (if b then 1 else 0)) % 512 := by
  unfold shiftIn
  obtain ⟨-, -, hm, -⟩ := gen_consts
  rw [hm, show 511 = 2 ^ 9 - 1 from rfl, Nat.and_two_pow_sub_one_eq_mod, Bits.shl1_or (by split <;> decide)]

theorem shiftIn_lt (s : Nat) (b : Bool) : shiftIn s b < 512 := by rw [shiftIn_eq]; omega

theorem fb_eq (s : Nat) : fb s = (s / 256 % 2 != s / 16 % 2) := by
  obtain ⟨ht1, ht2, -⟩ := gen_consts
  unfold fb
  rw [ht1, ht2, Nat.shiftRight_eq_div_pow, Nat.shiftRight_eq_div_pow]

def genStates : Nat → Nat → List Nat
  | 0, _ => []
  | n+1, g => shiftIn g (fb g) :: genStates n (shiftIn g (fb g))

/-- period exactly 511 from the reset state (first return to the start register after 511 steps), every register on
    the way non-zero and 9 bits wide, 256 ones per period.  The recurrence x^9 + x^5 + 1 is the tap pair (8, 4) of
    `gen_consts` read through `fb_eq`. -/
def orbitOK : Bool :=
  let st := genStates 511 1
  let bits := genBits 511 1
  st.getLastD 0 == 1 && (st.take 510).all (· != 1) && st.all (fun s => s != 0 && decide (s < 512)) &&
  bits.count true == 256

theorem period_511 : orbitOK = true := by decide +kernel

theorem genState_eq_foldl (n g : Nat) : genState n g = (genBits n g).foldl shiftIn g := by
  induction n generalizing g with
  | zero => rfl
  | succ n ih => simp only [genState, genBits, List.foldl]; exact ih _

theorem genBits_add (m n g : Nat) : genBits (m + n) g = genBits m g ++ genBits n (genState m g) := by
  induction m generalizing g with
  | zero => simp [genBits, genState]
  | succ m ih => rw [Nat.succ_add]; simp only [genBits, genState, List.cons_append]; rw [ih]

theorem genBits_length (n g : Nat) : (genBits n g).length = n := by
  induction n generalizing g with
  | zero => rfl
  | succ n ih => simp [genBits, ih]

theorem genState_add (m n g : Nat) : genState (m + n) g = genState n (genState m g) := by
  induction m generalizing g with
  | zero => simp [genState]
  | succ m ih => rw [Nat.succ_add]; simp only [genState]; exact ih _

theorem run_append (s : St) (a b : List Bool) : run s (a ++ b) = run (run s a) b := by
  unfold run; rw [List.foldl_append]

theorem run_cons (s : St) (b : Bool) (bs : List Bool) : run s (b :: bs) = run (validate s b).1 bs := rfl

/-- one step of a validator that is not locked, field by field -/
structure Unsynced (s : St) (b : Bool) : Prop where
  state : (validate s b).1.state = shiftIn s.state b
  flag : (validate s b).2 = (b != fb s.state)
  synced : (validate s b).1.synced = (b == fb s.state && (s.syncCount + 1) % 256 == 18)
  syncCount : (validate s b).1.syncCount =
    (if b = fb s.state ∧ (s.syncCount + 1) % 256 ≠ 18 then (s.syncCount + 1) % 256 else 0)
  errCount : (validate s b).1.errCount = s.errCount
  bitCount : (validate s b).1.bitCount = (if (validate s b).1.synced then (s.bitCount + 18) % 2 ^ 32 else s.bitCount)
  history : (validate s b).1.synced = true → (validate s b).1.history = List.replicate 128 false ∧
    (validate s b).1.histCount = 0 ∧ (validate s b).1.histPos = 0

theorem validate_unsynced (s : St) (b : Bool) (h : s.synced = false) : Unsynced s b := by
  obtain ⟨-, -, -, hl, -, -, hb⟩ := gen_consts
  change histBits = 128 at hb
  by_cases hr : b = fb s.state
  · by_cases hc : (s.syncCount + 1) % 256 = 18
    · constructor <;> simp [validate, synchronize, h, hl, hb, hr, hc]
    · constructor <;> simp [validate, synchronize, h, hl, hr, hc]
  · constructor <;> simp [validate, synchronize, h, hr]

theorem unsynced_step (s : St) (b : Bool) (h : s.synced = false) (hc : s.syncCount < 17) :
    (validate s b).1.synced = false ∧ (validate s b).1.state = shiftIn s.state b ∧
    (validate s b).1.syncCount = if b = fb s.state then s.syncCount + 1 else 0 := by
  have v := validate_unsynced s b h
  have hne : (s.syncCount + 1) % 256 ≠ 18 := by omega
  refine ⟨by rw [v.synced, beq_false_of_ne hne, Bool.and_false], v.state, ?_⟩
  have h4 := v.syncCount
  simp only [and_iff_left hne] at h4
  rw [h4, Nat.mod_eq_of_lt (by omega)]

theorem no_early_lock (bits : List Bool) : ∀ (s : St), s.synced = false → s.syncCount + bits.length ≤ 17 →
    (run s bits).synced = false ∧ (run s bits).syncCount ≤ s.syncCount + bits.length ∧
    (run s bits).state = bits.foldl shiftIn s.state := by
  induction bits with
  | nil => intro s h _; exact ⟨h, by simp [run], rfl⟩
  | cons b bs ih =>
    intro s h hlen
    rw [List.length_cons] at hlen ⊢
    obtain ⟨h1, h2, h3⟩ := unsynced_step s b h (by omega)
    have hle : (validate s b).1.syncCount ≤ s.syncCount + 1 := by rw [h3]; split <;> omega
    obtain ⟨i1, i2, i3⟩ := ih (validate s b).1 h1 (by omega)
    exact ⟨i1, by rw [run_cons]; omega, by rw [run_cons, i3, h2]; rfl⟩

theorem foldl_shiftIn (bits : List Bool) (a : Nat) (ha : a < 512) :
    bits.foldl shiftIn a = (a * 2 ^ bits.length + bits.foldl shiftIn 0) % 512 := by
  -- from the last bit: only there is the step linear in `a * 2 ^ length`
  induction bits using Lists.concat_induction with
  | nil => simp; omega
  | concat l x ih =>
    rw [List.foldl_append, List.foldl_append, List.length_append, List.length_singleton, Nat.pow_succ, ← Nat.mul_assoc]
    simp only [List.foldl, shiftIn_eq]
    omega

theorem nine_bits_determine (bits : List Bool) (h : bits.length = 9) (a b : Nat) :
    bits.foldl shiftIn a = bits.foldl shiftIn b := by
  match bits, h with
  | x :: bs, h =>
    have h8 : bs.length = 8 := by simpa using h
    rw [List.foldl_cons, List.foldl_cons, foldl_shiftIn bs _ (shiftIn_lt a x), foldl_shiftIn bs _ (shiftIn_lt b x), h8,
      shiftIn_eq, shiftIn_eq]
    omega

/-- while the validator's register equals the generator's and the received bits are the generator's,
    every bit matches and the counter runs up to the lock -/
theorem tracking (k : Nat) : ∀ (s : St) (g : Nat), s.synced = false → s.state = g → s.syncCount + k < 18 →
    (run s (genBits k g)).synced = false ∧ (run s (genBits k g)).syncCount = s.syncCount + k ∧
    (run s (genBits k g)).state = genState k g := by
  induction k with
  | zero => intro s g h hs _; exact ⟨h, rfl, hs⟩
  | succ k ih =>
    intro s g h hs hk
    subst hs
    obtain ⟨h1, h2, h3⟩ := unsynced_step s (fb s.state) h (by omega)
    rw [if_pos rfl] at h3
    obtain ⟨i1, i2, i3⟩ := ih (validate s (fb s.state)).1 _ h1 h2 (by omega)
    exact ⟨i1, by rw [genBits, run_cons, i2, h3]; omega, i3⟩

/-- **a validator fed any phase of the sequence locks within 27 bits** (and not before 18), and at
    lock its register equals the generator's.  `v` is any unlocked validator whose run counter is 0 — the
    condition after construction, `reset()`, and after an unlock; its register content is arbitrary. -/
theorem locks_within_27 (v : St) (g0 : Nat) (hv : v.synced = false) (hc : v.syncCount = 0) :
    ∃ n, 18 ≤ n ∧ n ≤ 27 ∧ (run v (genBits n g0)).synced = true ∧ (run v (genBits n g0)).state = genState n g0 ∧
      ∀ m, m < n → (run v (genBits m g0)).synced = false := by
  -- phase 1: the first nine bits flush whatever the register held
  obtain ⟨p1, p2, p3⟩ := no_early_lock (genBits 9 g0) v hv (by rw [hc, genBits_length]; omega)
  rw [hc, genBits_length, Nat.zero_add] at p2
  rw [nine_bits_determine _ (genBits_length 9 g0) v.state g0, ← genState_eq_foldl] at p3
  generalize hs9 : run v (genBits 9 g0) = s9 at p1 p2 p3
  -- phase 2: the counter, `c ≤ 9` by now, runs up to 17 on matching bits; the next bit locks
  generalize hc9 : s9.syncCount = c at p2
  obtain ⟨t1, t2, t3⟩ := tracking (17 - c) s9 _ p1 p3 (by omega)
  generalize hs17 : run s9 (genBits (17 - c) (genState 9 g0)) = s17 at t1 t2 t3
  have l := validate_unsynced s17 (fb s17.state) t1
  have hrun : run v (genBits (9 + (17 - c) + 1) g0) = (validate s17 (fb s17.state)).1 := by
    rw [genBits_add, genBits_add, run_append, run_append, hs9, hs17, genState_add, ← t3]; rfl
  refine ⟨9 + (17 - c) + 1, by omega, by omega, ?_, ?_, ?_⟩
  · rw [hrun, l.synced, show (s17.syncCount + 1) % 256 = 18 by omega]; simp
  · rw [hrun, l.state, genState_add, genState_add, ← t3]; rfl
  · intro m hm
    by_cases hm9 : m ≤ 9
    · exact (no_early_lock (genBits m g0) v hv (by rw [hc, genBits_length]; omega)).1
    · obtain ⟨d, rfl⟩ : ∃ d, m = 9 + d := ⟨m - 9, by omega⟩
      rw [genBits_add, run_append, hs9]
      exact (tracking d s9 _ p1 p3 (by omega)).1

def ones (l : List Bool) : Nat := l.count true

/-- the last 128 error flags (older ones forgotten, missing ones `false`), oldest first -/
def W (rs : List Bool) : List Bool := (List.replicate 128 false ++ rs).drop rs.length

theorem W_nil : W [] = List.replicate 128 false := by simp [W]

theorem W_length (rs : List Bool) : (W rs).length = 128 := by
  unfold W; rw [List.length_drop, List.length_append, List.length_replicate]; omega

theorem W_snoc (rs : List Bool) (r : Bool) : W (rs ++ [r]) = (W rs).drop 1 ++ [r] := by
  unfold W
  rw [← List.append_assoc, List.length_append, List.length_singleton, List.drop_drop]
  rw [List.drop_append_of_le_length (by rw [List.length_append, List.length_replicate]; omega)]

theorem W_snoc_getD (rs : List Bool) (r : Bool) (k : Nat) :
    (W (rs ++ [r])).getD k false = if k = 127 then r else (W rs).getD (k + 1) false := by
  have hl := W_length rs
  rw [W_snoc]
  simp only [List.getD_eq_getElem?_getD, List.getElem?_append, List.length_drop, hl, List.getElem?_drop]
  split
  · rw [if_neg (by omega), Nat.add_comm]
  · split
    · simp [*]
    · rw [List.getElem?_eq_none (by simp; omega), List.getElem?_eq_none (by omega)]

theorem ones_snoc (rs : List Bool) (r : Bool) :
    (if (W rs).getD 0 false then 1 else 0) ≤ ones (W rs) ∧
    ones (W (rs ++ [r])) = ones (W rs) - (if (W rs).getD 0 false then 1 else 0) + (if r then 1 else 0) := by
  rw [W_snoc]
  have hl := W_length rs
  generalize W rs = w at hl ⊢
  cases w with
  | nil => simp at hl
  | cons x w =>
    unfold ones
    simp only [List.drop_succ_cons, List.drop_zero, List.count_append, List.getD_cons_zero, List.count_cons,
      List.count_nil]
    cases x <;> cases r <;> simp

theorem ones_W_le (rs : List Bool) : ones (W rs) ≤ 128 := W_length rs ▸ List.count_le_length

theorem ones_false (k : Nat) : ones (List.replicate k false) = 0 := by simp [ones, List.count_replicate]

theorem ones_W_le_ones (rs : List Bool) : ones (W rs) ≤ ones rs := by
  refine Nat.le_trans ((List.drop_sublist _ _).count_le true) (Nat.le_of_eq ?_)
  rw [List.count_append, ← ones, ones_false, Nat.zero_add]; rfl

/-- what the validator remembers about the error flags `rs` seen since it locked -/
def Inv (s : St) (rs : List Bool) : Prop :=
  s.histPos = rs.length % 128 ∧ s.history.length = 128 ∧ s.histCount = ones (W rs) ∧
  ∀ j, j < 128 → s.history.getD j false = (W rs).getD ((j + 128 - s.histPos) % 128) false

theorem inv_at_lock (s : St) (b : Bool) (h : s.synced = false) (hl : (validate s b).1.synced = true) :
    Inv (validate s b).1 [] := by
  obtain ⟨h1, h2, h3⟩ := (validate_unsynced s b h).history hl
  rw [Inv, h1, h2, h3, W_nil]
  exact ⟨rfl, List.length_replicate, (ones_false 128).symm, fun j _ => by rw [Lists.getD_replicate, Lists.getD_replicate]⟩

theorem countErrors_eq (s : St) (e : Bool) :
    countErrors s e =
      let hc := ((s.histCount + 2 ^ 64 - (if s.history.getD s.histPos false then 1 else 0)) % 2 ^ 64 + (if e then 1 else 0)) % 2 ^ 64
      { s with bitCount := (s.bitCount + 1) % 2 ^ 32, errCount := if e then (s.errCount + 1) % 2 ^ 32 else s.errCount,
               history := s.history.set s.histPos e, histCount := hc,
               histPos := if s.histPos + 1 = 128 then 0 else s.histPos + 1,
               synced := s.synced && !(e && decide (25 ≤ hc)) } := by
  obtain ⟨-, -, -, -, hu, -, hb⟩ := gen_consts
  change histBits = 128 at hb
  unfold countErrors
  cases e
  · simp only [Bool.false_eq_true, if_false, hb, Bool.false_and, Bool.not_false, Bool.and_true]
    -- by rewriting: `rfl` or `simp`'s closing step, asked to see `_ % 2 ^ 64 + 0` as `_ % 2 ^ 64`, is very slow in the kernel
    rw [Nat.add_zero (_ % _), Nat.mod_mod]
  · simp only [if_true, hu, hb, Bool.true_and, ge_iff_le]
    congr 1
    cases s.synced <;> simp

theorem sub_add_wrap {M w o e : Nat} (ho : o ≤ w) (h : w - o + e < M) : ((w + M - o) % M + e) % M = w - o + e := by
  rw [Nat.sub_add_comm ho, Nat.add_mod_right, Nat.mod_add_mod, Nat.mod_eq_of_lt h]

/-- ring positions: once the write position has moved on from `p`, slot `p` is the youngest of the window and every
    other slot is one place nearer the oldest than before -/
theorem ring_index (p j : Nat) (hp : p < 128) (hj : j < 128) :
    (p = j → (j + 128 - (p + 1) % 128) % 128 = 127) ∧
    (p ≠ j → (j + 128 - (p + 1) % 128) % 128 ≠ 127 ∧ (j + 128 - (p + 1) % 128) % 128 + 1 = (j + 128 - p) % 128) := by
  omega

/-- the slot at `histPos` holds the oldest flag of the window, which the new flag replaces -/
theorem countErrors_inv (s : St) (rs : List Bool) (r : Bool) (hinv : Inv s rs) : Inv (countErrors s r) (rs ++ [r]) := by
  obtain ⟨i1, i2, i3, i4⟩ := hinv
  have hpos : s.histPos < 128 := by omega
  have hold : s.history.getD s.histPos false = (W rs).getD 0 false := by
    rw [i4 _ hpos]; congr 1; omega
  have hpos' : (if s.histPos + 1 = 128 then 0 else s.histPos + 1) = (s.histPos + 1) % 128 := by split <;> omega
  rw [countErrors_eq]
  dsimp only [Inv]
  rw [hpos']
  refine ⟨?_, by rw [List.length_set, i2], ?_, ?_⟩
  · rw [i1, List.length_append, List.length_singleton]; omega
  · obtain ⟨h1, h2⟩ := ones_snoc rs r
    rw [hold, i3, sub_add_wrap h1 (h2 ▸ Nat.lt_of_le_of_lt (ones_W_le _) (by decide)), h2]
  · intro j hj
    obtain ⟨k1, k2⟩ := ring_index s.histPos j hpos hj
    rw [W_snoc_getD, Lists.getD_set, i2, i4 j hj]
    by_cases hjp : s.histPos = j
    · rw [if_pos ⟨hjp, hpos⟩, if_pos (k1 hjp)]
    · rw [if_neg (fun c => hjp c.1), if_neg (k2 hjp).1, (k2 hjp).2]

theorem validate_locked_eq (s : St) (b : Bool) (h : s.synced = true) :
    validate s b = (countErrors { s with state := shiftIn s.state (fb s.state) } (b != fb s.state), b != fb s.state) := by
  unfold validate generate
  simp [h]

/-- one locked step: the register free-runs, the error flag is `received xor generated`, counters advance -/
theorem validate_synced (s : St) (b : Bool) (h : s.synced = true) :
    (validate s b).1.state = shiftIn s.state (fb s.state) ∧
    (validate s b).2 = (b != fb s.state) ∧
    (validate s b).1.bitCount = (s.bitCount + 1) % 2 ^ 32 ∧
    (validate s b).1.errCount = (if (b != fb s.state) then (s.errCount + 1) % 2 ^ 32 else s.errCount) ∧
    (validate s b).1.syncCount = s.syncCount := by
  rw [validate_locked_eq s b h, countErrors_eq]
  exact ⟨rfl, rfl, rfl, rfl, rfl⟩

/-- one locked step with error flag `r` (received bit = generated bit xor `r`) -/
theorem locked_step (s : St) (rs : List Bool) (r : Bool) (hs : s.synced = true) (hinv : Inv s rs) :
    Inv (validate s (fb s.state != r)).1 (rs ++ [r]) ∧
    (validate s (fb s.state != r)).1.state = shiftIn s.state (fb s.state) ∧
    (validate s (fb s.state != r)).1.synced = !(r && decide (25 ≤ ones (W (rs ++ [r])))) ∧
    (validate s (fb s.state != r)).1.errCount = (if r then (s.errCount + 1) % 2 ^ 32 else s.errCount) ∧
    (validate s (fb s.state != r)).1.bitCount = (s.bitCount + 1) % 2 ^ 32 := by
  have hres : ((fb s.state != r) != fb s.state) = r := by cases fb s.state <;> cases r <;> rfl
  rw [validate_locked_eq s _ hs, hres]
  -- `Inv` reads the history fields only, which the register update leaves alone
  have hI : Inv (countErrors { s with state := shiftIn s.state (fb s.state) } r) (rs ++ [r]) := countErrors_inv _ rs r hinv
  refine ⟨hI, ?_⟩
  -- the window count that the lock test reads is, by the invariant, that of the error flags
  obtain ⟨-, -, hc, -⟩ := hI
  rw [countErrors_eq] at hc ⊢
  dsimp only at hc ⊢
  rw [hc, hs, Bool.true_and]
  exact ⟨rfl, rfl, rfl, rfl⟩

/-- **exact counts**: from a validator that has just locked and tracks the generator, for every error pattern `e`
    whose every 128-bit window holds fewer than 25 errors, the validator stays locked, its error count grows by
    exactly the number of differing bits, its bit count by exactly the number of bits checked (`uint32_t`
    arithmetic), and its register keeps tracking the generator -/
theorem exact_count (e : List Bool) : ∀ (s : St) (g : Nat) (rs : List Bool), s.synced = true → s.state = g → Inv s rs →
    s.errCount < 2 ^ 32 → s.bitCount < 2 ^ 32 →
    (∀ k, 1 ≤ k → k ≤ e.length → ones (W (rs ++ e.take k)) < 25) →
    let s' := run s (List.zipWith (fun x y => x != y) (genBits e.length g) e)
    s'.synced = true ∧ s'.errCount = (s.errCount + ones e) % 2 ^ 32 ∧
    s'.bitCount = (s.bitCount + e.length) % 2 ^ 32 ∧ s'.state = genState e.length g ∧ Inv s' (rs ++ e) := by
  induction e with
  | nil =>
    intro s g rs hs hst hinv hE hB _
    rw [List.append_nil]
    exact ⟨hs, (Nat.mod_eq_of_lt hE).symm, (Nat.mod_eq_of_lt hB).symm, hst, hinv⟩
  | cons r e ih =>
    -- by definition the run over `r :: e` is the run over `e` from the state after `validate s (fb s.state != r)`
    intro s g rs hs hst hinv hE hB hsp
    subst hst
    obtain ⟨l1, l2, l3, l4, l5⟩ := locked_step s rs r hs hinv
    -- the window after this bit holds fewer than 25 errors, so the lock stands
    have h1 : ones (W (rs ++ [r])) < 25 := hsp 1 (Nat.le_refl 1) (Nat.succ_le_succ (Nat.zero_le _))
    rw [decide_eq_false (Nat.not_le.mpr h1), Bool.and_false, Bool.not_false] at l3
    obtain ⟨r1, r2, r3, r4, r5⟩ := ih (validate s (fb s.state != r)).1 _ (rs ++ [r])
      l3 l2 l1 (by rw [l4]; split <;> omega) (l5 ▸ Nat.mod_lt _ (Nat.two_pow_pos 32))
      (fun k hk1 hk2 => by rw [List.append_assoc]; exact hsp (k + 1) (by omega) (Nat.succ_le_succ hk2))
    rw [List.append_assoc] at r5
    refine ⟨r1, ?_, ?_, r4, r5⟩
    · refine r2.trans ?_
      rw [l4]; simp only [ones, List.count_cons]; cases r <;> simp [Nat.add_assoc, Nat.add_comm 1]
    · refine r3.trans ?_
      rw [l5, List.length_cons, Nat.mod_add_mod, Nat.add_assoc, Nat.add_comm 1]

/-- **unlock**: the first time a 128-bit window holds 25 errors, the validator drops lock (on that very bit) -/
theorem unlock_at_25 (s : St) (rs : List Bool) (hs : s.synced = true) (hinv : Inv s rs)
    (h25 : 25 ≤ ones (W (rs ++ [true]))) : (validate s (fb s.state != true)).1.synced = false := by
  obtain ⟨-, -, l3, -, -⟩ := locked_step s rs true hs hinv
  rw [l3]; simp [h25]

example : (run init (genBits 27 1)).synced = true := by decide +kernel
example : (run init (genBits 17 1)).synced = false := by decide +kernel
example : ones (W ([] ++ [true, false, true].take 2)) < 25 := by decide +kernel

end M17.C18
