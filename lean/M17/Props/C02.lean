/-
C02 — Viterbi decoding is maximum-likelihood and its cost is the true path metric.

`M17.Vit` mirrors `Viterbi::decode` (forward add-compare-select with the code's tie-break, first-minimum end
state, chain-back).  The dynamic programme is treated for any branch costs, initial metrics and length; the decoder for every
`int8_t` vector short enough that some path stays below the "unreachable" marker.
-/
import M17.Model.Viterbi
import M17.Spec.Conv
import M17.Lemmas.List

namespace M17.C02
open M17.Vit

/-- the dumped `nextState_` / `prevState_` tables of every width are the modelled formulas -/
theorem gen_transitions :
    (Gen.vitNext2 = (List.range 16).flatMap fun s => [next s false, next s true]) ∧
    Gen.vitNext3 = Gen.vitNext2 ∧ Gen.vitNext4 = Gen.vitNext2 ∧ Gen.vitNext5 = Gen.vitNext2 ∧ Gen.vitNext6 = Gen.vitNext2 ∧
    (Gen.vitPrev2 = (List.range 16).flatMap fun t => [pred t false, pred t true]) ∧
    Gen.vitPrev3 = Gen.vitPrev2 ∧ Gen.vitPrev4 = Gen.vitPrev2 ∧ Gen.vitPrev5 = Gen.vitPrev2 ∧ Gen.vitPrev6 = Gen.vitPrev2 := by
  decide

theorem gen_limits : Gen.vitLimit2 = 1 ∧ Gen.vitLimit3 = 3 ∧ Gen.vitLimit4 = 7 ∧ Gen.vitLimit5 = 15 ∧ Gen.vitLimit6 = 31 ∧
    Gen.vitMaxMetric = 2 ^ 30 - 1 := by decide

def expect (l : Nat) (bit : Bool) : Int := if bit then (l : Int) else -(l : Int)

/-- every `cost_` table is `±L` according to the specification encoder's output for (state, input 0) -/
theorem costTables_ok : ∀ llr ∈ [2, 3, 4, 5, 6], ∀ s, s < 16 →
    (costTbl llr).getD (2 * s) 0 = expect (limit llr) (Spec.convOut s false).1 ∧
    (costTbl llr).getD (2 * s + 1) 0 = expect (limit llr) (Spec.convOut s false).2 := by decide +kernel

/-! the encoder has the two symmetries the butterfly relies on: both polynomials contain the x^0 and the x^4 tap, so flipping
    the input bit or the oldest state bit complements both output bits -/

theorem convOut_flip_input : ∀ s, s < 16 →
    (Spec.convOut s true).1 = !(Spec.convOut s false).1 ∧ (Spec.convOut s true).2 = !(Spec.convOut s false).2 := by decide +kernel

theorem convOut_flip_top : ∀ s, s < 8 →
    (Spec.convOut (s + 8) false).1 = !(Spec.convOut s false).1 ∧ (Spec.convOut (s + 8) false).2 = !(Spec.convOut s false).2 := by
  decide +kernel

def cost : List Branch → List Bool → Nat → Nat
  | f :: fs, b :: bs, s => f s b + cost fs bs (next s b)
  | _, _, _ => 0

def endState : List Bool → Nat → Nat
  | [], s => s
  | b :: bs, s => endState bs (next s b)

theorem next_lt (s : Nat) (b : Bool) : next s b < 16 := by unfold next; omega

/-! the edges of the trellis, from either end: `(s, b) ↦ next s b` and `(t, d) ↦ (pred t d, bitOf t)` are inverse to each other
(a 4-bit shift register: `next` shifts `b` in at the bottom, `pred` puts `d` back at the top); 16 states, checked one by one -/

theorem next_pred : ∀ t, t < 16 → ∀ d, next (pred t d) (bitOf t) = t := by decide +kernel

theorem pred_next : ∀ s, s < 16 → ∀ b, pred (next s b) (decide (8 ≤ s)) = s ∧ bitOf (next s b) = b := by decide +kernel

theorem pred_lt (t : Nat) (d : Bool) (h : t < 16) : pred t d < 16 := by
  unfold pred; split <;> omega

theorem acs_getD (f : Branch) (m : Metrics) (t : Nat) (ht : t < 16) :
    (acs f m).1.getD t 0 = (acs1 f m t).1 ∧ (acs f m).2.getD t false = (acs1 f m t).2 :=
  ⟨Lists.getD_map_range ht, Lists.getD_map_range ht⟩

theorem acs1_le (f : Branch) (m : Metrics) (t : Nat) (d : Bool) :
    (acs1 f m t).1 ≤ m.getD (pred t d) 0 + f (pred t d) (bitOf t) := by
  unfold acs1 pred
  simp only
  cases d <;> simp only [Bool.false_eq_true, if_false, if_true] <;> split <;> omega

theorem acs1_eq (f : Branch) (m : Metrics) (t : Nat) :
    (acs1 f m t).1 = m.getD (pred t (acs1 f m t).2) 0 + f (pred t (acs1 f m t).2) (bitOf t) := by
  unfold acs1 pred
  simp only
  split <;> simp

theorem dp_le (fs : List Branch) : ∀ (m : Metrics) (u : List Bool) (s : Nat),
    u.length = fs.length → s < 16 →
    (dp fs m).getD (endState u s) 0 ≤ m.getD s 0 + cost fs u s := by
  induction fs with
  | nil => intro m u s hu hs; cases u <;> simp_all [dp, endState, cost]
  | cons f fs ih =>
    intro m u s hu hs
    cases u with
    | nil => simp at hu
    | cons b bs =>
      simp only [dp, endState, cost]
      have h1 := ih (acs f m).1 bs (next s b) (by simpa using hu) (next_lt s b)
      have h2 := acs1_le f m (next s b) (decide (8 ≤ s))
      rw [(pred_next s hs b).1, (pred_next s hs b).2] at h2
      rw [(acs_getD f m _ (next_lt s b)).1] at h1
      omega

/-- **attainment**: the traced survivor is a real path with exactly the DP cost -/
theorem trace_spec (fs : List Branch) : ∀ (m : Metrics) (s : Nat), s < 16 →
    (trace fs m s).1 < 16 ∧ (trace fs m s).2.length = fs.length ∧ endState (trace fs m s).2 (trace fs m s).1 = s ∧
    m.getD (trace fs m s).1 0 + cost fs (trace fs m s).2 (trace fs m s).1 = (dp fs m).getD s 0 := by
  induction fs with
  | nil => intro m s hs; simp [trace, endState, cost, dp, hs]
  | cons f fs ih =>
    intro m s hs
    obtain ⟨h1, h2, h3, h4⟩ := ih (acs f m).1 s hs
    simp only [trace, dp]
    generalize hr : trace fs (acs f m).1 s = r at h1 h2 h3 h4
    obtain ⟨s1, u⟩ := r
    simp only at h1 h2 h3 h4 ⊢
    obtain ⟨hm, hd⟩ := acs_getD f m s1 h1
    rw [hd]
    refine ⟨pred_lt _ _ h1, by simp [h2], ?_, ?_⟩
    · simp only [endState]; rw [next_pred s1 h1]; exact h3
    · simp only [cost]; rw [next_pred s1 h1]
      have := acs1_eq f m s1
      omega

theorem endState_lt (u : List Bool) (s : Nat) (hs : s < 16) : endState u s < 16 := by
  induction u generalizing s with
  | nil => exact hs
  | cons b u ih => exact ih _ (next_lt s b)

theorem argmin_spec (m : Metrics) :
    (argmin m).1 < 16 ∧ (argmin m).2 = m.getD (argmin m).1 0 ∧ ∀ j, j < 16 → (argmin m).2 ≤ m.getD j 0 := by
  unfold argmin
  have gen : ∀ (l : List Nat) (acc : Nat × Nat), acc.1 < 16 → acc.2 = m.getD acc.1 0 → (∀ i ∈ l, i < 16) →
      let r := l.foldl (fun (best : Nat × Nat) i => if m.getD i 0 < best.2 then (i, m.getD i 0) else best) acc
      r.1 < 16 ∧ r.2 = m.getD r.1 0 ∧ r.2 ≤ acc.2 ∧ ∀ j ∈ l, r.2 ≤ m.getD j 0 := by
    intro l
    induction l with
    | nil => exact fun acc h1 h2 _ => ⟨h1, h2, Nat.le_refl _, by simp⟩
    | cons a l ih =>
      intro acc h1 h2 hl
      simp only [List.foldl_cons, List.forall_mem_cons] at hl ⊢
      split
      · obtain ⟨r1, r2, r3, r4⟩ := ih (a, m.getD a 0) hl.1 rfl hl.2
        exact ⟨r1, r2, by simp only at r3; omega, r3, r4⟩
      · obtain ⟨r1, r2, r3, r4⟩ := ih acc h1 h2 hl.2
        exact ⟨r1, r2, r3, by omega, r4⟩
  obtain ⟨r1, r2, -, r4⟩ := gen (List.range 16) (0, m.getD 0 0) (by simp) rfl (fun i hi => List.mem_range.mp hi)
  exact ⟨r1, r2, fun j hj => r4 j (List.mem_range.mpr hj)⟩

theorem init_getD (s : Nat) (hs : s < 16) : initMetrics.getD s 0 = if s = 0 then 0 else Gen.vitMaxMetric := by
  unfold initMetrics
  cases s with
  | zero => rfl
  | succ s =>
    have : s < 15 := by omega
    rw [List.getD_cons_succ, List.getD_eq_getElem?_getD, List.getElem?_replicate, if_pos this]
    simp

/-- **the decoder's choice is a minimum-cost path from the zero state, and its metric is that minimum** —
    for any sequence of branch-cost functions in which some path from state 0 is cheaper than the "unreachable"
    marker (true of every in-range input, see `decode_is_argmin`) -/
theorem dp_argmin (fs : List Branch) (u0 : List Bool) (hu0 : u0.length = fs.length)
    (hsmall : cost fs u0 0 < Gen.vitMaxMetric) :
    let best := argmin (dp fs initMetrics)
    let tr := trace fs initMetrics best.1
    tr.1 = 0 ∧ tr.2.length = fs.length ∧ cost fs tr.2 0 = best.2 ∧
    ∀ u : List Bool, u.length = fs.length → best.2 ≤ cost fs u 0 := by
  simp only
  obtain ⟨a1, a2, a3⟩ := argmin_spec (dp fs initMetrics)
  obtain ⟨t1, t2, -, t4⟩ := trace_spec fs initMetrics _ a1
  have hall : ∀ u : List Bool, u.length = fs.length → (argmin (dp fs initMetrics)).2 ≤ cost fs u 0 := by
    intro u hu
    have h1 := dp_le fs initMetrics u 0 hu (by decide)
    have h2 := a3 _ (endState_lt u 0 (by decide))
    rw [init_getD 0 (by decide), if_pos rfl, Nat.zero_add] at h1
    omega
  -- the survivor starts in state 0: from any other state it would cost at least the "unreachable" marker, which `u0` beats
  rw [init_getD _ t1, ← a2] at t4
  split at t4
  case isTrue hz => rw [hz, Nat.zero_add] at t4; exact ⟨hz, t2, t4, hall⟩
  case isFalse => have := hall u0 hu0; omega

/-- distance of one received soft value from the value expected for a coded bit; an erased position (0) costs nothing -/
def dist (l : Nat) (bit : Bool) (r : Int) : Nat := if r ≠ 0 then (expect l bit - r).natAbs else 0

theorem branch_is_soft_distance (llr : Nat) (hl : llr = 2 ∨ llr = 3 ∨ llr = 4 ∨ llr = 5 ∨ llr = 6)
    (s : Nat) (hs : s < 16) (b : Bool) (r0 r1 : Int) :
    branch (costTbl llr) r0 r1 s b =
      dist (limit llr) (Spec.convOut s b).1 r0 + dist (limit llr) (Spec.convOut s b).2 r1 := by
  have key := costTables_ok llr (by simpa using hl)
  have neg_expect : ∀ (bit : Bool), expect (limit llr) (!bit) = -expect (limit llr) bit := by
    intro bit; unfold expect; cases bit <;> simp
  have abs_flip : ∀ (e r : Int), (-e - r).natAbs = (e + r).natAbs := by intro e r; omega
  obtain ⟨f1, f2⟩ := convOut_flip_input s hs
  unfold branch cost0 cost1 dist iabs
  by_cases h8 : s < 8
  · obtain ⟨k1, k2⟩ := key s hs
    rw [if_pos h8]
    cases b
    · simp only [Bool.false_eq_true, if_false, k1, k2]
    · simp only [if_true, k1, k2, f1, f2, neg_expect, abs_flip]
  · obtain ⟨k1, k2⟩ := key (s - 8) (by omega)
    obtain ⟨t1, t2⟩ := convOut_flip_top (s - 8) (by omega)
    rw [show s - 8 + 8 = s by omega] at t1 t2
    rw [if_neg h8]
    cases b
    · simp only [Bool.false_eq_true, if_false, k1, k2, t1, t2, neg_expect, abs_flip]
    · simp only [if_true, k1, k2, f1, f2, t1, t2, Bool.not_not]

def softDist (l : Nat) : List (Int × Int) → List (Bool × Bool) → Nat
  | r :: rs, c :: cs => dist l c.1 r.1 + dist l c.2 r.2 + softDist l rs cs
  | _, _ => 0

theorem convNext_eq (s : Nat) (b : Bool) : Spec.convNext s b = next s b := rfl

theorem pathCost_is_soft_distance (llr : Nat) (hl : llr = 2 ∨ llr = 3 ∨ llr = 4 ∨ llr = 5 ∨ llr = 6)
    (rp : List (Int × Int)) : ∀ (u : List Bool) (s : Nat), s < 16 →
    cost (rp.map fun p => branch (costTbl llr) p.1 p.2) u s = softDist (limit llr) rp (Spec.convFrom s u) := by
  induction rp with
  | nil => intro u s _; cases u <;> simp [cost, softDist]
  | cons r rp ih =>
    intro u s hs
    cases u with
    | nil => simp [cost, softDist, Spec.convFrom]
    | cons b u =>
      simp only [List.map, cost, Spec.convFrom, softDist]
      rw [branch_is_soft_distance llr hl s hs b, ih u _ (next_lt s b), convNext_eq]

theorem pairs_flat (rp : List (Int × Int)) : pairs (rp.flatMap fun p => [p.1, p.2]) = rp := by
  induction rp with
  | nil => rfl
  | cons r rp ih => simp only [List.flatMap_cons, List.cons_append, List.nil_append, pairs, ih]

theorem pairs_length : ∀ (l : List Int), (pairs l).length = l.length / 2
  | [] => rfl
  | [_] => by simp [pairs]
  | _ :: _ :: rest => by simp only [pairs, List.length_cons, pairs_length rest]; omega

theorem pairs_mem : ∀ (l : List Int) (p : Int × Int), p ∈ pairs l → p.1 ∈ l ∧ p.2 ∈ l
  | [], _, hp | [_], _, hp => by simp [pairs] at hp
  | a :: b :: rest, p, hp => by
    simp only [pairs, List.mem_cons] at hp
    rcases hp with rfl | hp
    · simp
    · have := pairs_mem rest p hp; simp [this.1, this.2]

theorem limit_le (llr : Nat) (hl : llr = 2 ∨ llr = 3 ∨ llr = 4 ∨ llr = 5 ∨ llr = 6) : limit llr ≤ 31 := by
  rcases hl with h | h | h | h | h <;> subst h <;> decide

theorem dist_le (l : Nat) (hl : l ≤ 31) (bit : Bool) (r : Int) (h : -128 ≤ r ∧ r ≤ 127) : dist l bit r ≤ 159 := by
  unfold dist expect; split <;> cases bit <;> simp <;> omega

/-- at most 159 per received value, 318 per trellis step, whatever the code word -/
theorem softDist_le (l : Nat) (hl : l ≤ 31) : ∀ (rp : List (Int × Int)) (cs : List (Bool × Bool)),
    (∀ p ∈ rp, (-128 ≤ p.1 ∧ p.1 ≤ 127) ∧ (-128 ≤ p.2 ∧ p.2 ≤ 127)) → softDist l rp cs ≤ 318 * rp.length
  | [], _, _ => by simp [softDist]
  | _ :: _, [], _ => by simp [softDist]
  | r :: rp, c :: cs, hr => by
    have ih := softDist_le l hl rp cs fun p hp => hr p (List.mem_cons_of_mem _ hp)
    obtain ⟨h1, h2⟩ := hr r List.mem_cons_self
    have d1 := dist_le l hl c.1 r.1 h1
    have d2 := dist_le l hl c.2 r.2 h2
    simp only [softDist, List.length_cons]
    omega

/-- `decode` reads its input two values at a time: maximum likelihood, stated for the pairs (what `decode_is_argmin` says of a flat
    vector, and what its users need when the vector is given as pairs) -/
theorem decode_pairs_argmin (llr : Nat) (hl : llr = 2 ∨ llr = 3 ∨ llr = 4 ∨ llr = 5 ∨ llr = 6)
    (recv : List Int) (hr : ∀ p ∈ pairs recv, (-128 ≤ p.1 ∧ p.1 ≤ 127) ∧ (-128 ≤ p.2 ∧ p.2 ≤ 127))
    (hlen : 318 * (pairs recv).length < 2 ^ 30 - 1) (outN : Nat) :
    ∃ ustar : List Bool, ustar.length = (pairs recv).length ∧
      (decode llr recv outN).2 = ustar.take outN ∧
      (∀ u : List Bool, u.length = (pairs recv).length →
        softDist (limit llr) (pairs recv) (Spec.convFrom 0 ustar) ≤ softDist (limit llr) (pairs recv) (Spec.convFrom 0 u)) ∧
      (decode llr recv outN).1 = roundDiv (softDist (limit llr) (pairs recv) (Spec.convFrom 0 ustar)) (limit llr) := by
  have hd := pathCost_is_soft_distance llr hl (pairs recv)
  obtain ⟨-, -, -, -, -, hmax⟩ := gen_limits
  -- the all-zero path is cheaper than the "unreachable" marker
  have hz := softDist_le (limit llr) (limit_le llr hl) (pairs recv) (Spec.convFrom 0 (List.replicate (pairs recv).length false)) hr
  obtain ⟨-, d2, d3, d4⟩ := dp_argmin ((pairs recv).map fun p => branch (costTbl llr) p.1 p.2)
    (List.replicate (pairs recv).length false) (by simp) (by rw [hd _ 0 (by decide), hmax]; omega)
  rw [List.length_map] at d2 d4
  refine ⟨_, d2, rfl, fun u hu => ?_, ?_⟩
  · rw [← hd _ 0 (by decide), ← hd _ 0 (by decide), d3]
    exact d4 u hu
  · rw [← hd _ 0 (by decide), d3]; rfl

/-- **maximum likelihood**: for every in-range soft vector (any confidences, any erasures, any length below 6.7 M)
    the payload returned is a prefix of an input sequence whose re-encoding is at minimum total soft distance
    from the received vector among all input sequences, and the reported cost is that minimum in
    full-confidence units, rounded to nearest -/
theorem decode_is_argmin (llr : Nat) (hl : llr = 2 ∨ llr = 3 ∨ llr = 4 ∨ llr = 5 ∨ llr = 6)
    (recv : List Int) (hr : ∀ x ∈ recv, -128 ≤ x ∧ x ≤ 127)
    (hlen : 318 * (recv.length / 2) < 2 ^ 30 - 1) (outN : Nat) :
    ∃ ustar : List Bool, ustar.length = recv.length / 2 ∧
      (decode llr recv outN).2 = ustar.take outN ∧
      (∀ u : List Bool, u.length = recv.length / 2 →
        softDist (limit llr) (pairs recv) (Spec.convFrom 0 ustar) ≤ softDist (limit llr) (pairs recv) (Spec.convFrom 0 u)) ∧
      (decode llr recv outN).1 = roundDiv (softDist (limit llr) (pairs recv) (Spec.convFrom 0 ustar)) (limit llr) := by
  rw [← pairs_length]
  exact decode_pairs_argmin llr hl recv (fun p hp => ⟨hr _ (pairs_mem recv p hp).1, hr _ (pairs_mem recv p hp).2⟩)
    (by rw [pairs_length]; exact hlen) outN

/-- no `int32_t` overflow: every path metric (and every sum formed before the comparison) stays below 2^31
    for trellises of up to 244 steps — the history buffer's size -/
theorem metric_bound (fs : List Branch) (C : Nat) (hf : ∀ f ∈ fs, ∀ s b, f s b ≤ C) : ∀ (m : Metrics) (B : Nat),
    (∀ s, s < 16 → m.getD s 0 ≤ B) → ∀ s, s < 16 → (dp fs m).getD s 0 ≤ B + C * fs.length := by
  induction fs with
  | nil => intro m B hm s hs; simpa [dp] using hm s hs
  | cons f fs ih =>
    intro m B hm s hs
    simp only [dp, List.length_cons]
    have hstep : ∀ t, t < 16 → (acs f m).1.getD t 0 ≤ B + C := by
      intro t ht
      rw [(acs_getD f m t ht).1, acs1_eq]
      have h1 := hm _ (pred_lt t (acs1 f m t).2 ht)
      have h2 := hf f List.mem_cons_self (pred t (acs1 f m t).2) (bitOf t)
      omega
    have := ih (fun g hg => hf g (List.mem_cons_of_mem _ hg)) (acs f m).1 (B + C) hstep s hs
    have e : B + C + C * fs.length = B + C * (fs.length + 1) := by rw [Nat.mul_succ]; omega
    omega

example : (2 ^ 30 - 1) + 318 * 244 < 2 ^ 31 := by decide

/-- `std::round(x / float(L))` is `(2x + L) / (2L)`: for odd `L` the quotient is never half-way -/
theorem roundDiv_never_half (x l : Nat) (hl : l % 2 = 1) : 2 * x % (2 * l) ≠ l := by
  intro h
  have h1 := Nat.div_add_mod (2 * x) (2 * l)
  rw [h] at h1
  have : 2 * l * (2 * x / (2 * l)) = 2 * (l * (2 * x / (2 * l))) := by rw [Nat.mul_assoc]
  omega

example : (decode 4 [7, 7, -7, 7, 0, -7, 7, 7] 4).1 = (decode 4 [7, 7, -7, 7, 0, -7, 7, 7] 4).1 ∧ ((decode 4 [7, 7, 7, -7, 0, -7, 7, 7] 4).2).length = 4 := by decide +kernel

end M17.C02
