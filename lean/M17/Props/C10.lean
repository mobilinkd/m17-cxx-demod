/-
C10 — interleaver and randomizer are exact, mutually inverse bit-conditioning maps; the soft,
bit-array and packed-byte variants implement the same mapping.
-/
import M17.Lemmas.Cond
import M17.Spec.Cond

namespace M17.C10
open M17.Cond M17.Bytes

theorem gen_params_eq_spec : Gen.ileaveF1 = 45 ∧ Gen.ileaveF2 = 92 ∧ Gen.ileaveK = 368 := by decide

theorem index_eq_spec (i : Nat) : index i = Spec.ileaveIndex i := by
  obtain ⟨hf1, hf2, hk⟩ := gen_params_eq_spec
  unfold index Spec.ileaveIndex K
  rw [hf1, hf2, hk]

/-- the values `index(i)` the real interleaver object returns are those of the modelled formula -/
theorem gen_index_eq_model : Gen.ileaveIndex = (List.range 368).map index := by decide +kernel

theorem gen_dc_eq_spec : Gen.randDC = Spec.randDC := by decide

/-- the `dc_` sign table the real randomizer object built is the modelled one -/
theorem gen_signs_eq_model : Gen.randSigns = (List.range 368).map dcSign := by decide +kernel

/-! ## the interleaver index is a permutation of 0..367: it is its own inverse -/

theorem K_eq : K = 368 := gen_params_eq_spec.2.2

theorem index_lt (i : Nat) : index i < 368 := by
  unfold index; rw [K_eq]; exact Nat.mod_lt _ (by decide)

theorem index_invol : ∀ i, i < 368 → index (index i) = i := by decide +kernel

/-- inverse permutation, by search -/
def invIndex (p : Nat) : Nat := ((List.range 368).find? (fun i => index i == p)).getD 0

theorem invIndex_eq (p : Nat) (hp : p < 368) : invIndex p = index p := by
  unfold invIndex
  cases h : (List.range 368).find? (fun i => index i == p) with
  | none =>
    have := List.find?_eq_none.mp h (index p) (List.mem_range.mpr (index_lt p))
    simp [index_invol p hp] at this
  | some j =>
    have h1 : index j = p := by simpa using List.find?_some h
    have h2 := index_invol j (List.mem_range.mp (List.mem_of_find?_eq_some h))
    rw [h1] at h2
    exact h2.symm

theorem index_self_inverse : Bij index index 368 :=
  ⟨fun i hi => ⟨index_lt i, index_invol i hi⟩, fun p hp => ⟨index_lt p, index_invol p hp⟩⟩

theorem index_perm : Bij index invIndex 368 := by
  refine ⟨fun i hi => ?_, fun p hp => ?_⟩
  · rw [invIndex_eq _ (index_lt i)]; exact index_self_inverse.1 i hi
  · rw [invIndex_eq p hp]; exact index_self_inverse.2 p hp

theorem deinterleaveSoft_length (xs : List Int) : (deinterleaveSoft xs).length = 368 := by
  unfold deinterleaveSoft; rw [K_eq, gather_length]

theorem deinterleave_interleave_soft (xs : List Int) (h : xs.length = 368) :
    deinterleaveSoft (interleaveSoft xs) = xs := by
  unfold deinterleaveSoft interleaveSoft; rw [K_eq]
  exact gather_scatter index_perm 0 xs h

theorem interleave_deinterleave_soft (xs : List Int) (h : xs.length = 368) :
    interleaveSoft (deinterleaveSoft xs) = xs := by
  unfold deinterleaveSoft interleaveSoft; rw [K_eq]
  exact scatter_gather index_perm 0 xs h

theorem interleaveSoft_eq (xs : List Int) : interleaveSoft xs = deinterleaveSoft xs := by
  unfold interleaveSoft deinterleaveSoft; rw [K_eq]
  exact scatter_eq_gather index_self_inverse 0 xs

theorem interleave_soft_position (xs : List Int) (i : Nat) (hi : i < 368) :
    (interleaveSoft xs).getD (index i) 0 = xs.getD i 0 := by
  unfold interleaveSoft; rw [K_eq]
  rw [scatter_getD index_perm 0 xs _ (index_perm.1 i hi).1, (index_perm.1 i hi).2]

theorem interleaveBytes_bit (bs : List Nat) {p : Nat} (hp : p < 368) :
    getBit (interleaveBytes bs) p = getBit bs (invIndex p) := by
  unfold interleaveBytes; rw [K_eq]
  rw [assign_prefix index_perm (fun i => getBit bs i) _ (by simp) 368 (Nat.le_refl _) p hp]
  simp [(index_perm.2 p hp).1]

theorem deinterleaveBytes_bit (bs : List Nat) {i : Nat} (hi : i < 368) :
    getBit (deinterleaveBytes bs) i = getBit bs (index i) := by
  unfold deinterleaveBytes; rw [K_eq]
  rw [assign_range (fun i => getBit bs (index i)) _ 368 (by simp) i (by simpa using hi), if_pos hi]

/-- `interleave(bytes_t&)` realises the same permutation as the soft/array variant (`interleave_soft_position`), and
    `deinterleave(bytes_t&)` undoes it -/
theorem bytes_variant_agrees (bs : List Nat) (i : Nat) (hi : i < 368) :
    getBit (interleaveBytes bs) (index i) = getBit bs i ∧
    getBit (deinterleaveBytes (interleaveBytes bs)) i = getBit bs i := by
  have h1 : getBit (interleaveBytes bs) (index i) = getBit bs i := by
    rw [interleaveBytes_bit _ (index_perm.1 i hi).1, (index_perm.1 i hi).2]
  exact ⟨h1, by rw [deinterleaveBytes_bit _ hi, h1]⟩

/-- whichever variant the transmitter used, the receiver's soft de-interleaver undoes it:
    soft values derived from the byte-interleaved frame de-interleave to those of the original bits -/
theorem soft_deinterleave_undoes_bytes (bs : List Nat) (f : Bool → Int) (i : Nat) (hi : i < 368) :
    (deinterleaveSoft ((List.range 368).map fun p => f (getBit (interleaveBytes bs) p))).getD i 0 = f (getBit bs i) := by
  unfold deinterleaveSoft
  rw [K_eq, gather_getD hi, Lists.getD_map_range (index_perm.1 i hi).1, (bytes_variant_agrees bs i hi).1]

theorem narrow8_id (x : Int) (h1 : -128 ≤ x) (h2 : x ≤ 127) : narrow8 x = x := by unfold narrow8; omega

/-- −128 included: `int8_t` takes −128 · −1 = 128 back to −128 -/
theorem rand_soft_step_involutive {x : Int} (i : Nat) (h : -128 ≤ x ∧ x ≤ 127) :
    narrow8 (narrow8 (x * dcSign i) * dcSign i) = x := by
  unfold dcSign narrow8
  split <;> omega

theorem rand_soft_involutive (xs : List Int) (h : ∀ x ∈ xs, -128 ≤ x ∧ x ≤ 127) :
    randSoft (randSoft xs) = xs :=
  Lists.zipIdx_map_twice _ xs fun x hx i => rand_soft_step_involutive i (h x hx)

theorem xorLsb_involutive (x : Int) (b : Bool) : xorLsb (xorLsb x b) b = x := by
  unfold xorLsb
  cases b
  · simp
  · simp only [if_true]
    split <;> split <;> omega

theorem rand_bits_involutive (xs : List Int) : randBits (randBits xs) = xs :=
  Lists.zipIdx_map_twice _ xs fun x _ _ => xorLsb_involutive x _

theorem randByteStep_eq {f dc mask : Nat} (hf : f < 256) : randByteStep f dc mask = f ^^^ (dc &&& mask) := by
  unfold randByteStep
  apply Nat.eq_of_testBit_eq
  intro i
  simp only [Nat.testBit_or, Nat.testBit_and, Nat.testBit_xor, testBit_255]
  by_cases hi : i < 8
  · cases mask.testBit i <;> simp [hi]
  · rw [Nat.testBit_lt_two_pow (Nat.lt_of_lt_of_le hf (Nat.pow_le_pow_right (by decide) (Nat.le_of_not_lt hi) : 2 ^ 8 ≤ 2 ^ i))]
    simp

theorem foldl_randByteStep (dc : Nat) (hdc : dc < 256) : ∀ (masks : List Nat) (f acc : Nat), f < 256 →
    masks.foldl (fun f m => randByteStep f dc m) (f ^^^ (dc &&& acc)) = f ^^^ (dc &&& masks.foldl (· ^^^ ·) acc)
  | [], _, _, _ => rfl
  | m :: masks, f, acc, hf => by
    rw [List.foldl_cons, List.foldl_cons, randByteStep_eq (Nat.xor_lt_two_pow (n := 8) hf (Nat.lt_of_le_of_lt Nat.and_le_left hdc)),
      Nat.xor_assoc, ← Nat.and_xor_distrib_left]
    exact foldl_randByteStep dc hdc masks f _ hf

theorem randByte_eq {f dc : Nat} (hf : f < 256) (hdc : dc < 256) : randByte f dc = f ^^^ dc := by
  have h := foldl_randByteStep dc hdc [128, 64, 32, 16, 8, 4, 2, 1] f 0 hf
  rw [Nat.and_zero, Nat.xor_zero] at h
  rw [randByte, h]
  -- the eight masks xor to 255 = 2^8 - 1
  exact congrArg (f ^^^ ·) ((Nat.and_two_pow_sub_one_eq_mod dc 8).trans (Nat.mod_eq_of_lt hdc))

theorem dcBytes : AllBytes Gen.randDC := by unfold AllBytes; decide

theorem randBytes_length (bs : List Nat) : (randBytes bs).length = bs.length := by simp [randBytes]

theorem randBytes_bit (bs : List Nat) (hb : AllBytes bs) (i : Nat) (hi : i < 8 * bs.length) :
    getBit (randBytes bs) i = (getBit bs i ^^ dcBit i) := by
  have hlen : i / 8 < bs.length := by omega
  have hdc : Gen.randDC.getD (i / 8) 0 < 256 :=
    getD_lt_of_allBytes dcBytes _
  unfold randBytes getBit dcBit getBit
  simp only [List.getD_eq_getElem?_getD, List.getElem?_map, List.getElem?_zipIdx, Nat.zero_add, List.getElem?_eq_getElem hlen,
    Option.map_some, Option.getD_some] at hdc ⊢
  rw [randByte_eq (hb _ (List.getElem_mem _)) hdc, Nat.testBit_xor]

theorem rand_bytes_involutive_bit (bs : List Nat) (hb : AllBytes bs) (i : Nat) (hi : i < 8 * bs.length) (hi2 : i < 368)
    (hb2 : AllBytes (randBytes bs)) :
    getBit (randBytes (randBytes bs)) i = getBit bs i := by
  rw [randBytes_bit _ hb2 i (by rw [randBytes_length]; exact hi), randBytes_bit _ hb i hi]
  cases getBit bs i <;> cases dcBit i <;> rfl

/-- soft value of a bit at magnitude `m`: positive = 1 -/
def softOf (m : Int) (b : Bool) : Int := if b then m else -m

/-- the three randomizer variants agree: `operator()` on the soft value of a bit and `randomize` on a 0/1 array
    both yield the bit xor-ed with the DC bit, as `M17ByteRandomizer` does (`randBytes_bit`) -/
theorem rand_variants_agree (m : Int) (hm1 : 1 ≤ m) (hm2 : m ≤ 127) (b : Bool) (i : Nat) :
    narrow8 (softOf m b * dcSign i) = softOf m (b ^^ dcBit i) ∧
    xorLsb (if b then 1 else 0) (dcSign i = -1) = (if (b ^^ dcBit i) then 1 else 0) := by
  unfold dcSign softOf xorLsb narrow8
  cases b <;> cases dcBit i <;> simp <;> omega

example : Bij index invIndex 368 := index_perm
example : index 1 = 137 ∧ invIndex 137 = 1 := by decide +kernel

end M17.C10
