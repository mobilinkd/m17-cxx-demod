/-
C07 — index and arithmetic ranges of the receive path (all inputs). `framer_index_in_range`, `packet_size_le_25` and `clock_index_in_range` are
the bare arithmetic of the code's index rules; what the models do is in `C03.run_finv`, `C07P`, `C07C`.
-/
import M17.Props.C02
import M17.Props.C05
import M17.Props.C11
import M17.Props.C17

namespace M17.C07
open M17.Dec

/-- the LICH fragment number extracted from a fragment is 0..7; a slot is written only for 0..5, and then the five
    bytes land at offsets 5n..5n+4 ≤ 29 of the 30-byte LSF buffer, whose length is preserved -/
theorem lich_slot_in_range (lsf lich : List Nat) (hl : lsf.length = 30) (h5 : (lich.take 5).length = 5) :
    let n := (lich.getD 5 0 >>> 5) % 8
    n < 8 ∧ (n ≤ 5 → 5 * n + 5 ≤ 30 ∧ (setSlot lsf n (lich.take 5)).length = 30) := by
  simp only
  refine ⟨Nat.mod_lt _ (by decide), ?_⟩
  intro hn
  exact ⟨by omega, C05.setSlot_length hl hn h5⟩

/-- Viterbi path metrics (and the sums formed before each comparison) stay below 2^31 − 1 for every in-range input and
    every trellis up to the 244 steps the history buffer allows: no `int32_t` overflow -/
theorem viterbi_metric_no_overflow (fs : List Vit.Branch) (hf : ∀ f ∈ fs, ∀ s b, f s b ≤ 318) (hlen : fs.length ≤ 244)
    (s : Nat) (hs : s < 16) : (Vit.dp fs Vit.initMetrics).getD s 0 + 318 < 2 ^ 31 - 1 := by
  have hb := C02.metric_bound fs 318 hf Vit.initMetrics Gen.vitMaxMetric (by
    intro t ht; rw [C02.init_getD t ht]; split <;> omega) s hs
  obtain ⟨-, -, -, -, -, hm⟩ := C02.gen_limits
  have : 318 * fs.length ≤ 318 * 244 := Nat.mul_le_mul_left _ hlen
  omega

/-- `decode_callsign` writes at most nine characters: the tenth array element is always the terminator -/
theorem callsign_index_le_9 (addr : List Nat) : (Call.decode addr).length = 10 ∧ (Call.decode addr).getD 9 1 = 0 := by
  obtain ⟨ds, hl, -, hd⟩ := C17.decode_shape addr
  rw [hd]
  exact ⟨C17.pad_length ds (by omega), C17.pad_getD_zero ds hl (Nat.le_refl _)⟩

/-- `depuncture` writes every slot of its output buffer (no stale slot is ever read by the decoder) -/
theorem depuncture_fills_buffer (p : List Nat) (xs prev : List Int) : (Punct.depuncture p xs prev).length = prev.length := by
  unfold Punct.depuncture; exact C11.depunctureGo_length p _ _ _

/-- framer: the fill index advances by two per symbol from an even value below 368 and wraps to 0 at 368 -/
theorem framer_index_in_range (i : Nat) (h : i < 368) (he : i % 2 = 0) :
    let i' := if i + 2 = 368 then 0 else i + 2
    i + 1 < 368 ∧ i' < 368 ∧ i' % 2 = 0 := by
  simp only; split <;> omega

/-- application packet handler: the size taken from the EOF byte is clamped to the 25 payload bytes of a segment -/
theorem packet_size_le_25 (b : Nat) : min ((b % 128) >>> 2) 25 ≤ 25 := Nat.min_le_right _ _

/-- symbol clock: an estimate in [0, 10) maps to a sample index 0..9 (the conversion is "nearest integer, wrapped") -/
theorem clock_index_in_range (k : Nat) (h : k ≤ 10) : (if k = 10 then 0 else k) ≤ 9 := by split <;> omega

end M17.C07
