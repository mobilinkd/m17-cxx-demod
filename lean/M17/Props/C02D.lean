/-
C02 — "every error pattern lighter than half the punctured code's distance is corrected".

From maximum likelihood (`C02.decode_pairs_argmin`) by the triangle inequality, with the distance of the punctured code COMPUTED by a
verified backward dynamic program over the error trellis (one pass, kernel-evaluated for the four M17 geometries):

* the code is linear, so the distance between two code words on the received positions is the masked weight of the code word of
  their difference;
* `scan` lower-bounds the masked weight of every input sequence that is non-zero somewhere inside the payload (the decoder does
  not force the end state, so sequences that differ only in the flush bits decode to the same payload and do not count);
* hence a full-confidence word with `w` bit errors on received positions, `2 w < d`, decodes to the transmitted payload.
-/
import M17.Props.C02
import M17.Props.C01F

namespace M17.C02D
open M17.Vit M17.C02

abbrev Pair := Bool × Bool

/-- masked weight of one code symbol: number of received positions where it is 1 -/
def mw (m c : Pair) : Nat := (m.1 && c.1).toNat + (m.2 && c.2).toNat

def pxor (a b : Pair) : Pair := (a.1 != b.1, a.2 != b.2)

def mweight : List Pair → List Pair → Nat
  | m :: ms, c :: cs => mw m c + mweight ms cs
  | _, _ => 0

/-- masked Hamming distance -/
def mham : List Pair → List Pair → List Pair → Nat
  | m :: ms, c :: cs, d :: ds => mw m (pxor c d) + mham ms cs ds
  | _, _, _ => 0

theorem parityNat_xor (x y : Nat) : Spec.parityNat (x ^^^ y) = (Spec.parityNat x != Spec.parityNat y) := by
  have e : List.range 5 = [0, 1, 2, 3, 4] := rfl
  haveI : Std.Commutative (· != · : Bool → Bool → Bool) := ⟨Bool.xor_comm⟩
  simp only [Spec.parityNat, e, List.foldl, Nat.testBit_xor]
  -- the ten bits, regrouped
  ac_rfl

/-- the encoder is linear over GF(2): shifting a bit in, reducing mod a power of two, masking and taking the parity all commute with xor -/
theorem lin (s1 s2 : Nat) (b1 b2 : Bool) :
    Spec.convOut (s1 ^^^ s2) (b1 != b2) = pxor (Spec.convOut s1 b1) (Spec.convOut s2 b2) ∧
    Spec.convNext (s1 ^^^ s2) (b1 != b2) = (Spec.convNext s1 b1 ^^^ Spec.convNext s2 b2) := by
  have hb : (b1 != b2).toNat = b1.toNat ^^^ b2.toNat := by cases b1 <;> cases b2 <;> rfl
  have hm : 2 * (s1 ^^^ s2) + (b1 != b2).toNat = (2 * s1 + b1.toNat) ^^^ (2 * s2 + b2.toNat) := by
    rw [hb, Bits.xor_double_add _ _ _ _ (Bool.toNat_lt b1) (Bool.toNat_lt b2)]
  unfold Spec.convOut Spec.convNext pxor
  simp only [hm, show (32 : Nat) = 2 ^ 5 from rfl, show (16 : Nat) = 2 ^ 4 from rfl, Nat.xor_mod_two_pow, Nat.and_xor_distrib_right,
    parityNat_xor, and_self]

/-- `lin` over the 16 × 16 encoder states and both input bits, as a Boolean -/
def linOK : Bool := (List.range 16).all fun s1 => (List.range 16).all fun s2 => [false, true].all fun b1 => [false, true].all fun b2 =>
  Spec.convOut (s1 ^^^ s2) (b1 != b2) == pxor (Spec.convOut s1 b1) (Spec.convOut s2 b2) &&
  Spec.convNext (s1 ^^^ s2) (b1 != b2) == (Spec.convNext s1 b1 ^^^ Spec.convNext s2 b2)
theorem lin_ok : linOK = true := by
  simp only [linOK, List.all_eq_true, Bool.and_eq_true, beq_iff_eq]
  intro s1 _ s2 _ b1 _ b2 _
  exact lin s1 s2 b1 b2

theorem mham_linear : ∀ (ms : List Pair) (v u : List Bool) (s1 s2 : Nat),
    mham ms (Spec.convFrom s1 v) (Spec.convFrom s2 u) = mweight ms (Spec.convFrom (s1 ^^^ s2) (List.zipWith (· != ·) v u))
  | [], _, _, _, _ => rfl
  | _ :: _, [], _, _, _ => rfl
  | _ :: _, _ :: _, [], _, _ => rfl
  | m :: ms, a :: v, b :: u, s1, s2 => by
    obtain ⟨l1, l2⟩ := lin s1 s2 a b
    simp only [Spec.convFrom, mham, mweight, List.zipWith_cons_cons, l1, l2, mham_linear ms v u]

/-- one backward step: cheapest continuation from each state -/
def stepTbl (m : Pair) (B : List Nat) : List Nat :=
  (List.range 16).map fun s =>
    min (mw m (Spec.convOut s false) + B.getD (Spec.convNext s false) 0) (mw m (Spec.convOut s true) + B.getD (Spec.convNext s true) 0)

/-- (table for the suffix, best candidate so far): the candidate at a position is "first non-zero input bit here", allowed only while
    at least `tail` further steps follow (i.e. inside the payload); 1000000 stands for "no candidate yet" (any value above every weight
    would do: `scan_le` holds whatever it is) -/
def scan (tail : Nat) : List Pair → List Nat × Nat
  | [] => (List.replicate 16 0, 1000000)
  | m :: ms =>
    let r := scan tail ms
    (stepTbl m r.1, if tail ≤ ms.length then min r.2 (mw m (Spec.convOut 0 true) + r.1.getD (Spec.convNext 0 true) 0) else r.2)

theorem back_le (tail : Nat) : ∀ (ms : List Pair) (s : Nat) (u : List Bool), s < 16 → u.length = ms.length →
    (scan tail ms).1.getD s 0 ≤ mweight ms (Spec.convFrom s u)
  | [], s, [], _, _ => by
    simp only [scan, mweight]
    rw [List.getD_eq_getElem?_getD, List.getElem?_replicate]; split <;> simp
  | m :: ms, s, b :: u, hs, hu => by
    simp only [scan, stepTbl, Spec.convFrom, mweight]
    rw [Lists.getD_map_range hs]
    have := back_le tail ms (Spec.convNext s b) u (C01.convNext_lt s b) (by simpa using hu)
    cases b <;> omega

theorem conv_zero : Spec.convOut 0 false = (false, false) ∧ Spec.convNext 0 false = 0 := by decide

theorem scan_le (tail : Nat) : ∀ (ms : List Pair) (w : List Bool), w.length = ms.length →
    (∃ t, t + tail < ms.length ∧ w.getD t false = true) → (scan tail ms).2 ≤ mweight ms (Spec.convFrom 0 w)
  | [], _, _, ⟨_, ht, _⟩ => absurd ht (Nat.not_lt_zero _)
  | _ :: _, [], hw, _ => by simp at hw
  | _ :: _, false :: _, _, ⟨0, _, hwt⟩ => by simp at hwt
  | m :: ms, true :: w, hw, ⟨t, ht, _⟩ => by
    -- a one here: this position's candidate, with the table's bound on what follows
    have hb := back_le tail ms (Spec.convNext 0 true) w (C01.convNext_lt 0 true) (by simpa using hw)
    have hc : tail ≤ ms.length := by rw [List.length_cons] at ht; omega
    simp only [scan, Spec.convFrom, mweight, if_pos hc]
    omega
  | m :: ms, false :: w, hw, ⟨t + 1, ht, hwt⟩ => by
    -- a zero here: the encoder stays in state 0 and puts out (0, 0)
    have := scan_le tail ms w (by simpa using hw) ⟨t, by rw [List.length_cons] at ht; omega, by simpa using hwt⟩
    have h0 : mw m (false, false) = 0 := by simp [mw]
    simp only [scan, Spec.convFrom, mweight, conv_zero.1, conv_zero.2, h0, Nat.zero_add]
    split <;> omega

/-- the received pairs for hard word `h` at full confidence `±L` on the received positions, 0 (erased) elsewhere -/
def recvOf (l : Nat) : List Pair → List Pair → List (Int × Int)
  | m :: ms, c :: cs => ((if m.1 then expect l c.1 else 0), (if m.2 then expect l c.2 else 0)) :: recvOf l ms cs
  | _, _ => []

theorem dist_full (l : Nat) (hl : 1 ≤ l) (mbit cbit bit : Bool) :
    dist l bit (if mbit then expect l cbit else 0) = 2 * l * (mbit && (cbit != bit)).toNat := by
  have hl0 : l ≠ 0 := by omega
  unfold dist expect
  cases mbit <;> cases cbit <;> cases bit <;> simp [hl0] <;> omega

theorem softDist_full (l : Nat) (hl : 1 ≤ l) : ∀ (ms h cs : List Pair), softDist l (recvOf l ms h) cs = 2 * l * mham ms h cs
  | [], _, _ => rfl
  | _ :: _, [], _ => rfl
  | _ :: _, _ :: _, [] => rfl
  | m :: ms, c :: h, d :: cs => by
    simp only [recvOf, softDist, mham, mw, pxor, dist_full l hl, softDist_full l hl ms h cs, Nat.mul_add]

theorem and_xor_tri (m a b c : Bool) : (m && (a != c)).toNat ≤ (m && (b != a)).toNat + (m && (b != c)).toNat := by
  cases m <;> cases a <;> cases b <;> cases c <;> decide

theorem mham_tri : ∀ (ms a b c : List Pair), a.length ≤ b.length → mham ms a c ≤ mham ms b a + mham ms b c
  | [], _, _, _, _ => Nat.zero_le _
  | _ :: _, [], _, _, _ => Nat.zero_le _
  | _ :: _, _ :: _, [], _, h => by simp at h
  | _ :: _, _ :: _, _ :: _, [], _ => Nat.zero_le _
  | m :: ms, x :: a, y :: b, z :: c, h => by
    have h1 := mham_tri ms a b c (by simpa using h)
    have h2 := and_xor_tri m.1 x.1 y.1 z.1
    have h3 := and_xor_tri m.2 x.2 y.2 z.2
    simp only [mham, mw, pxor]
    omega

theorem recvOf_eq (l : Nat) : ∀ (ms h : List Pair), recvOf l ms h =
    List.zipWith (fun m c => ((if m.1 then expect l c.1 else 0), (if m.2 then expect l c.2 else 0))) ms h
  | [], _ => rfl
  | _ :: _, [] => rfl
  | m :: ms, c :: h => by simp only [recvOf, List.zipWith_cons_cons, recvOf_eq l ms h]

theorem recvOf_length (l : Nat) (ms h : List Pair) (hl : ms.length = h.length) : (recvOf l ms h).length = ms.length := by
  rw [recvOf_eq, List.length_zipWith, hl, Nat.min_self]

theorem recvOf_range (l : Nat) (hl : l ≤ 31) (ms h : List Pair) (p : Int × Int) (hp : p ∈ recvOf l ms h) :
    (-128 ≤ p.1 ∧ p.1 ≤ 127) ∧ (-128 ≤ p.2 ∧ p.2 ≤ 127) := by
  have hv : ∀ mb cb : Bool, -128 ≤ (if mb then expect l cb else 0) ∧ (if mb then expect l cb else 0) ≤ 127 := by
    intro mb cb; unfold expect; cases mb <;> cases cb <;> simp <;> omega
  rw [recvOf_eq] at hp
  obtain ⟨i, hi, rfl⟩ := List.getElem_of_mem hp
  rw [List.getElem_zipWith]
  exact ⟨hv _ _, hv _ _⟩

theorem take_ne_exists (outN : Nat) (v u : List Bool) (hl : v.length = u.length) (h : v.take outN ≠ u.take outN) :
    ∃ t, t < outN ∧ t < v.length ∧ (List.zipWith (· != ·) v u).getD t false = true := by
  refine Classical.byContradiction fun hc => h (List.ext_getElem (by simp [hl]) fun t h1 h2 => ?_)
  rw [List.length_take] at h1 h2
  have hne := fun hx => hc ⟨t, by omega, by omega, hx⟩
  rw [List.getD_eq_getElem?_getD, List.getElem?_zipWith, List.getElem?_eq_getElem (by omega),
    List.getElem?_eq_getElem (by omega)] at hne
  simpa using hne

/-- **errors below half the distance are corrected** — for every soft width, every mask of received positions (any puncturing), every
    message `u`, and every full-confidence hard word `h` whose masked Hamming distance `w` from the code word of `u` satisfies
    `2 w < d`, where `d = scan` is the computed distance bound of the masked code: the decoder returns the payload of `u` -/
theorem corrects_below_half_distance (llr : Nat) (hl : llr = 2 ∨ llr = 3 ∨ llr = 4 ∨ llr = 5 ∨ llr = 6)
    (mask h : List Pair) (u : List Bool) (tail outN : Nat)
    (hu : u.length = mask.length) (hh : h.length = mask.length) (hout : outN + tail = mask.length)
    (hsmall : 318 * mask.length < 2 ^ 30 - 1)
    (hw : 2 * mham mask h (Spec.convFrom 0 u) < (scan tail mask).2) :
    (decode llr ((recvOf (limit llr) mask h).flatMap fun p => [p.1, p.2]) outN).2 = u.take outN := by
  have hL1 : 1 ≤ limit llr := by rcases hl with h | h | h | h | h <;> subst h <;> decide
  have hrl := recvOf_length (limit llr) mask h hh.symm
  obtain ⟨ustar, e1, e2, e3, -⟩ := decode_pairs_argmin llr hl ((recvOf (limit llr) mask h).flatMap fun p => [p.1, p.2])
    (by rw [pairs_flat]; exact recvOf_range (limit llr) (limit_le llr hl) mask h) (by rw [pairs_flat, hrl]; exact hsmall) outN
  rw [pairs_flat] at e1 e3
  rw [hrl] at e1
  rw [e2]
  refine Decidable.byContradiction fun hc => ?_
  obtain ⟨t, t1, t2, t3⟩ := take_ne_exists outN ustar u (by rw [e1, hu]) hc
  have hs := scan_le tail mask (List.zipWith (· != ·) ustar u) (by simp [e1, hu]) ⟨t, by omega, t3⟩
  have hlin : mham mask (Spec.convFrom 0 ustar) (Spec.convFrom 0 u) = mweight mask (Spec.convFrom 0 (List.zipWith (· != ·) ustar u)) :=
    mham_linear mask ustar u 0 0
  have htri := mham_tri mask (Spec.convFrom 0 ustar) h (Spec.convFrom 0 u) (by rw [C01F.convFrom_length, e1, hh]; exact Nat.le_refl _)
  have hmin := e3 u (by rw [hrl, hu])
  rw [softDist_full (limit llr) hL1, softDist_full (limit llr) hL1] at hmin
  have hmin' : mham mask h (Spec.convFrom 0 ustar) ≤ mham mask h (Spec.convFrom 0 u) :=
    Nat.le_of_mul_le_mul_left hmin (by omega)
  omega

/-- received-position mask of a puncture geometry: coded bit `i` is received iff the matrix keeps it and it fits the frame -/
def maskOf (p : List Nat) (n out : Nat) : List Pair :=
  (List.range (n / 2)).map fun t => (C01F.recv p out (2 * t), C01F.recv p out (2 * t + 1))

/-! ### the same scan as the kernel evaluates it

`scan` as written looks every successor up by index and runs once per `tail`, `maskOf` recomputes row and rank at every position: about ten
times the work of the one pass below, which is the decoder's own butterfly. -/

theorem maskOf_eq (p : List Nat) (n out : Nat) : maskOf p n out = C11.pairUp (C11.recvFlags p 0 out (2 * (n / 2))) := by
  rw [C11.recvFlags_eq, C11.pairUp_map_range]; rfl

/-- code symbols of states 0..7 on input 0; input 1, and state `j + 8`, give the complement (`C02.convOut_flip_input`, `convOut_flip_top`) -/
def syms : List Pair :=
  [(false, false), (false, true), (false, true), (false, false), (true, false), (true, true), (true, true), (true, false)]

def pnot (c : Pair) : Pair := (!c.1, !c.2)

/-- states `j` and `j + 8` both lead to `2j` and `2j + 1`: their new entries (first and second list) from consecutive entries of the old table -/
def fly (m : Pair) : List Pair → List Nat → List Nat × List Nat
  | c :: cs, b0 :: b1 :: B =>
    let r := fly m cs B
    (min (mw m c + b0) (mw m (pnot c) + b1) :: r.1, min (mw m (pnot c) + b0) (mw m c + b1) :: r.2)
  | _, _ => ([], [])

theorem stepTbl_eq_fly (m : Pair) : ∀ B : List Nat, B.length = 16 → stepTbl m B = (fly m syms B).1 ++ (fly m syms B).2
  | [_, _, _, _, _, _, _, _, _, _, _, _, _, _, _, _], _ => rfl

/-- the tables of `scan`, and the candidate of every position whether or not `tail` admits it -/
def cands : List Pair → List Nat × List Nat
  | [] => (List.replicate 16 0, [])
  | m :: ms =>
    let r := cands ms
    let f := fly m syms r.1
    (f.1 ++ f.2, (mw m (true, true) + r.1.getD 1 0) :: r.2)

theorem scan_fst_length (tail : Nat) : ∀ ms, (scan tail ms).1.length = 16
  | [] => rfl
  | _ :: _ => by simp [scan, stepTbl]

theorem cands_fst (tail : Nat) : ∀ ms, (cands ms).1 = (scan tail ms).1
  | [] => rfl
  | m :: ms => by simp only [cands, scan, cands_fst tail ms, stepTbl_eq_fly m _ (scan_fst_length tail ms)]

theorem scan_snd (tail : Nat) : ∀ ms, (scan tail ms).2 = ((cands ms).2.take (ms.length - tail)).foldr min 1000000
  | [] => by simp [scan, cands]
  | m :: ms => by
    simp only [scan, cands, List.length_cons, ← cands_fst tail ms]
    split
    · rw [show ms.length + 1 - tail = ms.length - tail + 1 by omega, List.take_succ_cons, List.foldr_cons, ← scan_snd tail ms,
        Nat.min_comm]
      rfl
    · rw [scan_snd tail ms, show ms.length + 1 - tail = 0 by omega, show ms.length - tail = 0 by omega]; rfl

/-- **computed distances of the punctured, unterminated code** (LSF P1 488→368, stream P2 296→272, packet P3 420→368, BERT P2 402→368):
    over all pairs of messages that differ anywhere in the payload the minimum distance on received positions is 3 / 2 / 3 / 3 (the
    weakest pairs differ only in the last payload bits, which the unforced end state protects least); over pairs that differ at least
    12 bits before the end of the payload it is 4 / 6 / 5 / 5 — the free distances of the punctured codes are 4 / 6 / 5 / 6 -/
theorem geometry_distances :
    (scan 4 (maskOf Gen.p1 488 368)).2 = 3 ∧ (scan 4 (maskOf Gen.p2 296 272)).2 = 2 ∧
    (scan 4 (maskOf Gen.p3 420 368)).2 = 3 ∧ (scan 4 (maskOf Gen.p2 402 368)).2 = 3 ∧
    (scan 16 (maskOf Gen.p1 488 368)).2 = 4 ∧ (scan 16 (maskOf Gen.p2 296 272)).2 = 6 ∧
    (scan 16 (maskOf Gen.p3 420 368)).2 = 5 ∧ (scan 16 (maskOf Gen.p2 402 368)).2 = 5 := by
  simp only [scan_snd, maskOf_eq]; decide +kernel

theorem maskOf_length (p : List Nat) (n out : Nat) : (maskOf p n out).length = n / 2 := by unfold maskOf; simp

/-- **LSF frames: any single bit error among the 368 received bits is corrected** (full-confidence input, the decoder's soft width 4) -/
theorem lsf_single_error_corrected (h : List Pair) (u : List Bool) (hu : u.length = 244) (hh : h.length = 244)
    (hw : mham (maskOf Gen.p1 488 368) h (Spec.convFrom 0 u) ≤ 1) :
    (decode 4 ((recvOf 7 (maskOf Gen.p1 488 368) h).flatMap fun p => [p.1, p.2]) 240).2 = u.take 240 := by
  exact corrects_below_half_distance 4 (by decide) (maskOf Gen.p1 488 368) h u 4 240
    (by rw [maskOf_length]; exact hu) (by rw [maskOf_length]; exact hh) (by rw [maskOf_length])
    (by rw [maskOf_length]; decide) (by rw [geometry_distances.1]; omega)

/-- **stream frames: any two bit errors among the 272 received payload-part bits leave the first 132 payload bits (frame number and the
    first 14½ audio bytes) intact** — the last 12 bits are only protected against single errors further inside (see `geometry_distances`) -/
theorem stream_double_error_prefix (h : List Pair) (u : List Bool) (hu : u.length = 148) (hh : h.length = 148)
    (hw : mham (maskOf Gen.p2 296 272) h (Spec.convFrom 0 u) ≤ 2) :
    (decode 4 ((recvOf 7 (maskOf Gen.p2 296 272) h).flatMap fun p => [p.1, p.2]) 132).2 = u.take 132 := by
  obtain ⟨-, -, -, -, -, hd, -, -⟩ := geometry_distances
  exact corrects_below_half_distance 4 (by decide) (maskOf Gen.p2 296 272) h u 16 132
    (by rw [maskOf_length]; exact hu) (by rw [maskOf_length]; exact hh) (by rw [maskOf_length])
    (by rw [maskOf_length]; decide) (by rw [hd]; omega)

/-- so a result for a shorter `outN` (`stream_double_error_prefix`) speaks of the first bits of what the decoder returns for the
    frame's own `outN` -/
theorem decode_prefix (llr : Nat) (recv : List Int) (a b : Nat) (hab : a ≤ b) :
    (decode llr recv a).2 = (decode llr recv b).2.take a := by
  unfold decode
  simp only [List.take_take, Nat.min_eq_left hab]

example : mham [(true, true), (true, false)] [(true, false), (true, true)] [(false, false), (true, false)] = 1 := by decide

end M17.C02D
