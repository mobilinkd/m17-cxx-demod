/-
C01 — clean-channel round trip of the decoder core.  A received vector whose non-erased values have the transmitted signs (any
magnitudes 1..L, any erasures that leave at least one value per trellis step) decodes to exactly the transmitted sequence, with
cost round(Σ(L−|r|)/L); each of the four M17 puncturing geometries leaves such a value at every step.  The whole frame is C01F.
-/
import M17.Props.C02
import M17.Lemmas.List
import M17.Props.C11

namespace M17.C01
open M17.Vit M17.C02

/-- least possible contribution of one received value: `L − |r|` unless erased -/
def base1 (l : Nat) (r : Int) : Nat := if r ≠ 0 then l - r.natAbs else 0

def baseCost (l : Nat) (rp : List (Int × Int)) : Nat := (rp.map fun p => base1 l p.1 + base1 l p.2).sum

/-- `r` is erased, or has the sign of the coded bit and a magnitude in 1..L -/
def okSign (l : Nat) (bit : Bool) (r : Int) : Prop := r = 0 ∨ (if bit then 1 ≤ r ∧ r ≤ l else -(l : Int) ≤ r ∧ r ≤ -1)

theorem dist_ge_base (l : Nat) (bit : Bool) (r : Int) : base1 l r ≤ dist l bit r := by
  unfold base1 dist expect; split <;> cases bit <;> simp <;> omega

theorem dist_eq_base {l : Nat} {bit : Bool} {r : Int} (h : okSign l bit r) : dist l bit r = base1 l r := by
  unfold base1 dist expect okSign at *
  rcases h with h | h
  · simp [h]
  · cases bit <;> simp at h ⊢ <;> split <;> omega

theorem dist_wrong_sign {l : Nat} {bit : Bool} {r : Int} (h : okSign l bit r) (hr : r ≠ 0) :
    base1 l r + 2 ≤ dist l (!bit) r := by
  unfold base1 dist expect okSign at *
  rcases h with h | h
  · exact absurd h hr
  · cases bit <;> simp at h ⊢ <;> simp [hr] <;> omega

def Consistent (l : Nat) : List (Int × Int) → List (Bool × Bool) → Prop
  | r :: rs, c :: cs => okSign l c.1 r.1 ∧ okSign l c.2 r.2 ∧ ¬ (r.1 = 0 ∧ r.2 = 0) ∧ Consistent l rs cs
  | [], [] => True
  | _, _ => False

theorem okSign_abs {l : Nat} {bit : Bool} {r : Int} (h : okSign l bit r) : r.natAbs ≤ l := by
  unfold okSign at h; rcases h with h | h
  · omega
  · cases bit <;> simp at h <;> omega

theorem consistent_abs {l : Nat} : ∀ {rp : List (Int × Int)} {cs : List (Bool × Bool)}, Consistent l rp cs →
    ∀ p ∈ rp, p.1.natAbs ≤ l ∧ p.2.natAbs ≤ l
  | [], _, _ => fun _ hp => by simp at hp
  | _ :: _, [], h => by simp [Consistent] at h
  | r :: rp, c :: cs, h => by
    simp only [Consistent] at h
    obtain ⟨h1, h2, -, hrest⟩ := h
    intro p hp
    rcases List.mem_cons.mp hp with rfl | hp
    · exact ⟨okSign_abs h1, okSign_abs h2⟩
    · exact consistent_abs hrest p hp

theorem any_path_ge_base (l : Nat) : ∀ (rp : List (Int × Int)) (v : List Bool) (s : Nat), v.length = rp.length →
    baseCost l rp ≤ softDist l rp (Spec.convFrom s v)
  | [], _, _, _ => by simp [baseCost, softDist]
  | _ :: _, [], _, hv => by simp at hv
  | r :: rp, b :: v, s, hv => by
    simp only [Spec.convFrom, softDist, baseCost, List.map, List.sum_cons]
    have h1 := any_path_ge_base l rp v (Spec.convNext s b) (by simpa using hv)
    have d1 := dist_ge_base l (Spec.convOut s b).1 r.1
    have d2 := dist_ge_base l (Spec.convOut s b).2 r.2
    unfold baseCost at h1
    omega

theorem sent_path_eq_base {l : Nat} : ∀ {rp : List (Int × Int)} {u : List Bool} {s : Nat},
    Consistent l rp (Spec.convFrom s u) → softDist l rp (Spec.convFrom s u) = baseCost l rp
  | [], u, _, _ => by cases u <;> simp [baseCost, softDist]
  | _ :: _, [], _, h => by simp [Spec.convFrom, Consistent] at h
  | r :: rp, b :: u, s, h => by
    simp only [Spec.convFrom, Consistent] at h
    obtain ⟨h1, h2, -, hrest⟩ := h
    simp only [Spec.convFrom, softDist, baseCost, List.map, List.sum_cons]
    rw [dist_eq_base h1, dist_eq_base h2, sent_path_eq_base hrest]
    rfl

/-- both generator polynomials contain the x^0 tap -/
theorem convOut_flip (s : Nat) (hs : s < 16) (b : Bool) :
    (Spec.convOut s (!b)).1 = !(Spec.convOut s b).1 ∧ (Spec.convOut s (!b)).2 = !(Spec.convOut s b).2 := by
  obtain ⟨f1, f2⟩ := convOut_flip_input s hs
  cases b
  · exact ⟨f1, f2⟩
  · simp [f1, f2]

theorem convNext_lt (s : Nat) (b : Bool) : Spec.convNext s b < 16 := by unfold Spec.convNext; omega

/-- at the first input bit where `v` leaves `u` both coded bits flip (`convOut_flip`); one of the two received values is not erased, so that
    step alone costs at least its base cost + 2 (`dist_wrong_sign`), and every other step at least its base cost -/
theorem other_path_gt {l : Nat} : ∀ {rp : List (Int × Int)} {u v : List Bool} {s : Nat}, s < 16 → v.length = rp.length →
    Consistent l rp (Spec.convFrom s u) → v ≠ u →
    baseCost l rp < softDist l rp (Spec.convFrom s v)
  | [], [], [], _, _, _, _, hne => absurd rfl hne
  | [], [], _ :: _, _, _, hv, _, _ => by simp at hv
  | [], _ :: _, _, _, _, _, h, _ | _ :: _, [], _, _, _, _, h, _ => by simp [Spec.convFrom, Consistent] at h
  | _ :: _, _ :: _, [], _, _, hv, _, _ => by simp at hv
  | r :: rp, a :: u, b :: v, s, hs, hv, h, hne => by
    simp only [Spec.convFrom, Consistent] at h
    obtain ⟨h1, h2, h3, h4⟩ := h
    simp only [Spec.convFrom, softDist, baseCost, List.map, List.sum_cons]
    by_cases hab : b = a
    · subst hab
      have := other_path_gt (convNext_lt s b) (by simpa using hv) h4 (fun c => hne (by rw [c]))
      rw [dist_eq_base h1, dist_eq_base h2]
      unfold baseCost at this
      omega
    · have hb : b = !a := Bool.eq_not.mpr hab
      subst hb
      obtain ⟨f1, f2⟩ := convOut_flip s hs a
      rw [f1, f2]
      have hrest := any_path_ge_base l rp v (Spec.convNext s (!a)) (by simpa using hv)
      unfold baseCost at hrest
      have g1 := dist_ge_base l (!(Spec.convOut s a).1) r.1
      have g2 := dist_ge_base l (!(Spec.convOut s a).2) r.2
      by_cases hr1 : r.1 = 0
      · have := dist_wrong_sign h2 (fun c => h3 ⟨hr1, c⟩)
        omega
      · have := dist_wrong_sign h1 hr1
        omega

theorem consistent_length {l : Nat} : ∀ {rp : List (Int × Int)} {u : List Bool} {s : Nat},
    Consistent l rp (Spec.convFrom s u) → u.length = rp.length
  | [], [], _, _ => rfl
  | [], _ :: _, _, h | _ :: _, [], _, h => by simp [Spec.convFrom, Consistent] at h
  | r :: rp, b :: u, s, h => by
    simp only [Spec.convFrom, Consistent] at h
    obtain ⟨-, -, -, hrest⟩ := h
    simp only [List.length_cons, consistent_length hrest]

/-- stated on `pairs recv`, which is all that `decode` reads of `recv` -/
theorem viterbi_clean_pairs (llr : Nat) (hl : llr = 2 ∨ llr = 3 ∨ llr = 4 ∨ llr = 5 ∨ llr = 6)
    (recv : List Int) (u : List Bool) (outN : Nat)
    (hcons : Consistent (limit llr) (pairs recv) (Spec.convFrom 0 u))
    (hlen : 318 * (pairs recv).length < 2 ^ 30 - 1) :
    decode llr recv outN = (roundDiv (baseCost (limit llr) (pairs recv)) (limit llr), u.take outN) := by
  have hL := limit_le llr hl
  obtain ⟨ustar, e1, e2, e3, e4⟩ := decode_pairs_argmin llr hl recv
    (fun p hp => by have := consistent_abs hcons p hp; omega) hlen outN
  have hus : ustar = u := by
    refine Decidable.byContradiction fun hc => ?_
    have h1 := other_path_gt (by decide) e1 hcons hc
    have h2 := e3 u (consistent_length hcons)
    rw [sent_path_eq_base hcons] at h2
    omega
  rw [hus] at e2 e4
  rw [sent_path_eq_base hcons] at e4
  exact Prod.ext e4 e2

/-- **Viterbi clean round trip** (every soft width, every trellis length within the bound of `C02.decode_is_argmin`, every
    payload, every per-position magnitude 1..L with correct sign, erasures allowed as long as no trellis step loses both
    values): the decoder returns exactly the first `outN` transmitted input bits, and the cost is `round(Σ(L − |r|)/L)` over
    the received positions -/
theorem viterbi_clean_exact (llr : Nat) (hl : llr = 2 ∨ llr = 3 ∨ llr = 4 ∨ llr = 5 ∨ llr = 6)
    (rp : List (Int × Int)) (u : List Bool) (outN : Nat)
    (hcons : Consistent (limit llr) rp (Spec.convFrom 0 u))
    (hlen : 318 * rp.length < 2 ^ 30 - 1) :
    decode llr (rp.flatMap fun p => [p.1, p.2]) outN =
      (roundDiv (baseCost (limit llr) rp) (limit llr), u.take outN) := by
  have := viterbi_clean_pairs llr hl (rp.flatMap fun p => [p.1, p.2]) u outN
  rw [pairs_flat] at this
  exact this hcons hlen

/-- original positions (0-based, of `n` coded bits) that survive puncturing into a frame of `out` bits -/
def receivedPositions (p : List Nat) (n out : Nat) : List Nat := Punct.punctureGo p 0 (List.range n) out

def noDoubleErasure (p : List Nat) (n out : Nat) : Bool :=
  let rx := receivedPositions p n out
  (List.range (n / 2)).all fun t => rx.contains (2 * t) || rx.contains (2 * t + 1)

theorem contains_received (p : List Nat) (n out i : Nat) (hi : i < n) :
    (receivedPositions p n out).contains i = (Punct.pAt p (C11.pIdx p 0 i) && decide (C11.rank p 0 i < out)) := by
  rw [Bool.eq_iff_iff, List.contains_iff_mem, receivedPositions, List.range_eq_range', C11.mem_punctureGo]
  simp [hi]

/-- the form in which the kernel evaluates it: one pass over the positions (`C11.recvFlags`) -/
theorem noDoubleErasure_eq (p : List Nat) (n out : Nat) :
    noDoubleErasure p n out = (C11.pairUp (C11.recvFlags p 0 out (2 * (n / 2)))).all fun m => m.1 || m.2 := by
  rw [C11.recvFlags_eq, C11.pairUp_map_range, List.all_map, Bool.eq_iff_iff]
  simp only [noDoubleErasure, List.all_eq_true, List.mem_range, Function.comp]
  refine forall_congr' fun t => forall_congr' fun ht => ?_
  rw [contains_received p n out _ (by omega), contains_received p n out _ (by omega)]

/-- LSF (P1, 488 → 368), stream (P2, 296 → 272), packet (P3, 420 → 368) and BERT (P2, 402 → 368, where the 369th kept
    bit is dropped): in each, every one of the 244 / 148 / 210 / 201 trellis steps receives at least one soft value, so
    `viterbi_clean_exact` applies to the de-punctured image of every specification-encoded payload -/
theorem geometries_no_double_erasure :
    noDoubleErasure Gen.p1 488 368 = true ∧ noDoubleErasure Gen.p2 296 272 = true ∧
    noDoubleErasure Gen.p3 420 368 = true ∧ noDoubleErasure Gen.p2 402 368 = true := by
  simp only [noDoubleErasure_eq]; decide +kernel

/-- trellis lengths of the modem are far below the bound of `viterbi_clean_exact` -/
example : 318 * 244 < 2 ^ 30 - 1 := by decide

example : Consistent 7 [(7, 7), (-3, 0), (0, -5)] (Spec.convFrom 0 [true, false, true]) := by
  simp only [Spec.convFrom, Consistent, okSign]
  decide

end M17.C01
