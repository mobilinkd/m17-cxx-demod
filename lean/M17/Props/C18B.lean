/-
C18 — BERT end to end: frames built from the PRBS9 generator, passed through the frame decoder and the application's BERT handler,
re-lock the validator with zero errors (composition of C01F.bert_roundtrip, byte packing/unpacking, locks_within_27 and exact_count).
-/
import M17.Props.C18
import M17.Props.C01F
import M17.Model.App

namespace M17.C18B
open M17.Prbs M17.C18 M17.Dec

/-- `get_bit_index` on what `to_byte_array` packed returns the bits that were packed -/
theorem getBit_pack (bits : List Bool) (i : Nat) (hi : i < bits.length) : Bytes.getBit (Bytes.pack bits) i = bits.getD i false := by
  rw [Spec.Tx.pack_eq, Spec.Tx.getBit_bytesOfBits]

abbrev appBertBits (bytes : List Nat) : List Bool := App.bertBits bytes

theorem appBertBits_pack (bits : List Bool) (h : bits.length = 197) : appBertBits (Bytes.pack bits) = bits :=
  Lists.list_ext_getD false 197 (by simp [App.bertBits]) h fun i hi => by
    rw [appBertBits, App.bertBits, Lists.getD_map_range hi, getBit_pack bits i (h ▸ hi)]

theorem counts_unlocked (s : St) (h : s.synced = false) (bits : List Bool)
    (hpre : ∀ m, m < bits.length → (run s (bits.take m)).synced = false) :
    (run s bits).errCount = s.errCount ∧
    (run s bits).bitCount = (if (run s bits).synced then (s.bitCount + 18) % 2 ^ 32 else s.bitCount) ∧
    ((run s bits).synced = true → Inv (run s bits) []) := by
  -- from the last bit: everything before it is a proper prefix, so only the last step can lock
  induction bits using Lists.concat_induction with
  | nil => simp [run, h]
  | concat pre b ih =>
    have hp : (run s pre).synced = false := by simpa using hpre pre.length (by simp)
    obtain ⟨i1, i2, -⟩ := ih fun m hm => by
      simpa [List.take_append_of_le_length (Nat.le_of_lt hm)] using hpre m (by rw [List.length_append]; omega)
    have v := validate_unsynced (run s pre) b hp
    have c2 := v.bitCount
    rw [hp, if_neg Bool.false_ne_true] at i2
    rw [i2] at c2
    rw [run_append]
    exact ⟨v.errCount.trans i1, c2, inv_at_lock _ b hp⟩

/-- the bit that locks the validator adds the 18 bits of the lock run to the bit count, counts no error and leaves an empty error window -/
theorem counts_at_lock : ∀ (bits : List Bool) (s : St), s.synced = false →
    (∀ m, m < bits.length → (run s (bits.take m)).synced = false) → (run s bits).synced = true →
    (run s bits).errCount = s.errCount ∧ (run s bits).bitCount = (s.bitCount + 18) % 2 ^ 32 ∧ Inv (run s bits) [] := by
  intro bits s h hpre hl
  obtain ⟨e, b, i⟩ := counts_unlocked s h bits hpre
  exact ⟨e, by rw [b, if_pos hl], i hl⟩

theorem genBits_take (n m g : Nat) (h : m ≤ n) : (genBits n g).take m = genBits m g := by
  have : n = m + (n - m) := by omega
  rw [this, genBits_add, List.take_append_of_le_length (by rw [genBits_length]; omega), List.take_of_length_le (by rw [genBits_length]; omega)]

/-- **an error-free run of the sequence**: any phase, any unlocked validator whose run counter is 0 (after construction, `reset()` or an
    unlock): after `T ≥ 27` bits it is locked, has counted no error, and has counted the 18 lock bits plus every bit since the lock -/
theorem clean_run (v : St) (g0 T : Nat) (hv : v.synced = false) (hc : v.syncCount = 0) (hT : 27 ≤ T)
    (hE : v.errCount < 2 ^ 32) :
    ∃ n, 18 ≤ n ∧ n ≤ 27 ∧ (run v (genBits T g0)).synced = true ∧ (run v (genBits T g0)).errCount = v.errCount ∧
      (run v (genBits T g0)).bitCount = ((v.bitCount + 18) % 2 ^ 32 + (T - n)) % 2 ^ 32 ∧
      (run v (genBits T g0)).state = genState T g0 := by
  obtain ⟨n, n1, n2, n3, n4, n5⟩ := locks_within_27 v g0 hv hc
  obtain ⟨k1, k2, k3⟩ := counts_at_lock (genBits n g0) v hv
    (fun m hm => by rw [genBits_length] at hm; rw [genBits_take n m g0 (by omega)]; exact n5 m hm) n3
  obtain ⟨d, rfl⟩ : ∃ d, T = n + d := ⟨T - n, by omega⟩
  -- from the lock on: `d` bits without error
  have hex := exact_count (List.replicate d false) (run v (genBits n g0)) (genState n g0) [] n3 n4 k3
    (by rw [k1]; exact hE) (by rw [k2]; exact Nat.mod_lt _ (by decide))
    (fun k _ _ => Nat.lt_of_le_of_lt (ones_W_le_ones _) (by simp [List.take_replicate, ones_false]))
  simp only [List.length_replicate, Lists.zipWith_false (genBits_length d _)] at hex
  obtain ⟨e1, e2, e3, e4, -⟩ := hex
  rw [genBits_add, run_append, genState_add]
  exact ⟨n, n1, n2, e1, by rw [e2, k1, ones_false, Nat.add_zero, Nat.mod_eq_of_lt hE],
    by rw [e3, k2, Nat.add_sub_cancel_left], e4⟩

/-- one received BERT frame: `operator()(BERT sync)` then `decode_bert` on every callback -/
def rxFrame (st : DState × St) (frame : List Int) : DState × St :=
  let out := step st.1 .bert frame true
  (out.state, out.calls.foldl (fun v c => run v (appBertBits c.bytes)) st.2)

/-- `frames` are clean soft images of consecutive BERT frames cut from the generator's sequence starting at register value `g` -/
def BertFrames (lo : Int) : Nat → List (List Int) → Prop
  | g, f :: fs => C01F.SoftImage lo (Spec.Tx.bertFrameBits (genBits 197 g)) f ∧ BertFrames lo (genState 197 g) fs
  | _, [] => True

theorem rx_is_run (lo : Int) (hlo : 1 ≤ lo) : ∀ (fs : List (List Int)) (g : Nat) (σ : DState) (v : St), BertFrames lo g fs →
    (fs.foldl rxFrame (σ, v)).2 = run v (genBits (197 * fs.length) g) := by
  intro fs
  induction fs with
  | nil => intro g σ v _; rfl
  | cons f fs ih =>
    intro g σ v ⟨h1, h2⟩
    have hb := C01F.bert_roundtrip lo hlo σ (genBits 197 g) (genBits_length 197 g) f true h1
    have hstep : rxFrame (σ, v) f = ({ σ with mode := .bert }, run v (genBits 197 g)) := by
      unfold rxFrame
      simp only [hb, List.foldl, appBertBits_pack _ (genBits_length 197 g)]
    simp only [List.foldl, hstep]
    rw [ih (genState 197 g) _ _ h2]
    have : 197 * (f :: fs).length = 197 + 197 * fs.length := by simp only [List.length_cons]; omega
    rw [this, genBits_add, run_append]

/-- **BERT end to end**: clean frames cut from any phase of the PRBS9 sequence, decoded by the frame decoder from ANY state and fed by the
    application handler to ANY freshly unlocked validator, lock it within the first frame and yield zero errors for ever after; the bit
    count is the 18-bit lock run plus every bit since -/
theorem bert_end_to_end (lo : Int) (hlo : 1 ≤ lo) (fs : List (List Int)) (g0 : Nat) (σ : DState) (v : St)
    (hF : BertFrames lo g0 fs) (hN : 1 ≤ fs.length) (hv : v.synced = false) (hc : v.syncCount = 0) (hE : v.errCount < 2 ^ 32) :
    ∃ n, 18 ≤ n ∧ n ≤ 27 ∧ (fs.foldl rxFrame (σ, v)).2.synced = true ∧ (fs.foldl rxFrame (σ, v)).2.errCount = v.errCount ∧
      (fs.foldl rxFrame (σ, v)).2.bitCount = ((v.bitCount + 18) % 2 ^ 32 + (197 * fs.length - n)) % 2 ^ 32 := by
  rw [rx_is_run lo hlo fs g0 σ v hF]
  obtain ⟨n, a, b, c, d, e, -⟩ := clean_run v g0 (197 * fs.length) hv hc (by omega) hE
  exact ⟨n, a, b, c, d, e⟩

/-- the constructed validator meets the hypotheses -/
example : Prbs.init.synced = false ∧ Prbs.init.syncCount = 0 ∧ Prbs.init.errCount < 2 ^ 32 := by decide

end M17.C18B
