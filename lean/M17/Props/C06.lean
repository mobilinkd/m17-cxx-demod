/-
C06 — no history latches the carrier detector off.  Theorems about `Dcd.update` at `Ext` (exact arithmetic with the
IEEE special values); the same function is executed at binary32 against `DataCarrierDetect` by the correspondence.
-/
import M17.Model.Dcd
import M17.Gen.Taps

namespace M17.C06
open M17.Dcd M17.Dcd.Ext

/-- carrier-detect thresholds of the demodulator (`dcd{2400, 3600, 0.1, 4.0}`): exact values of the binary32 constants -/
def loQ : Rat := (Gen.dcdLo.1 : Rat) / (Gen.dcdLo.2 : Rat)
def hiQ : Rat := (Gen.dcdHi.1 : Rat) / (Gen.dcdHi.2 : Rat)
def lo : Ext := fin loQ
def hi : Ext := fin hiQ

theorem gen_thresholds : 0 < loQ ∧ loQ ≤ 1 / 5 ∧ loQ ≤ hiQ ∧ hiQ ≤ 4 := by decide +kernel

def Sane (s : State Ext) : Prop := ∃ q : Rat, s.level = fin q ∧ 0 ≤ q

/-- band energies are sums of squared magnitudes: finite and non-negative -/
def Energy (e : Ext) : Prop := ∃ q : Rat, e = fin q ∧ 0 ≤ q

theorem rat_le_div {r a b : Rat} (hb : 0 < b) (hr : r * b ≤ a) : r ≤ a / b :=
  Rat.not_lt.1 fun h => absurd ((Rat.div_lt_iff hb).1 h) (Rat.not_lt.2 hr)

theorem update_fin (s : State Ext) (q a b : Rat) (hq : s.level = fin q) :
    update ops lo hi s (fin a) (fin b) =
      { level := fin (4 / 5 * q + 1 / 5 * (if 0 < b then a / b else 0)),
        triggered := decide ((if s.triggered then loQ else hiQ) < 4 / 5 * q + 1 / 5 * (if 0 < b then a / b else 0)) } := by
  unfold update
  by_cases hb : 0 < b
  · have hbne : b ≠ 0 := fun h => absurd (h ▸ hb) (by decide)
    cases s.triggered <;> simp [hq, ops, gt, lo, hi, div, scale, add, hb, hbne]
  · cases s.triggered <;> simp [hq, ops, gt, lo, hi, scale, add, hb]

theorem update_sane (s : State Ext) (l1 l2 : Ext) (hs : Sane s) (h1 : Energy l1) (h2 : Energy l2) :
    Sane (update ops lo hi s l1 l2) := by
  obtain ⟨q, hq, hq0⟩ := hs
  obtain ⟨a, rfl, ha⟩ := h1
  obtain ⟨b, rfl, hb⟩ := h2
  rw [update_fin s q a b hq]
  refine ⟨_, rfl, ?_⟩
  split
  · have : 0 ≤ a / b := rat_le_div ‹0 < b› (by rwa [Rat.zero_mul])
    grind
  · grind

/-- **no NaN latch**: from the initial state, after ANY history of band energies (exact digital silence included) the
    level is a finite number -/
theorem dcd_no_nan_latch (xs : List (Ext × Ext)) (hx : ∀ p ∈ xs, Energy p.1 ∧ Energy p.2) (s : State Ext) (hs : Sane s) :
    Sane (run ops lo hi s xs) :=
  List.foldlRecOn xs _ hs fun s hs p hp => update_sane s p.1 p.2 hs (hx p hp).1 (hx p hp).2

theorem update_level_ge (s : State Ext) (q a b r : Rat) (hq : s.level = fin q) (hb : 0 < b) (hr : r * b ≤ a) :
    ∃ q' : Rat, (update ops lo hi s (fin a) (fin b)).level = fin q' ∧ 4 / 5 * q + 1 / 5 * r ≤ q' := by
  rw [update_fin s q a b hq, if_pos hb]
  have := rat_le_div hb hr
  exact ⟨_, rfl, by grind⟩

theorem update_triggered {s : State Ext} {l1 l2 : Ext} {q : Rat} (hl : (update ops lo hi s l1 l2).level = fin q) (hq : hiQ < q) :
    (update ops lo hi s l1 l2).triggered = true := by
  have htr : (update ops lo hi s l1 l2).triggered
      = if s.triggered then gt (update ops lo hi s l1 l2).level lo else gt (update ops lo hi s l1 l2).level hi := rfl
  have hth := gen_thresholds
  rw [htr, hl]
  split <;> simp only [lo, hi, gt, decide_eq_true_eq] <;> grind

/-- every pair of a history is a block with positive out-of-band energy and band-energy ratio at least `r` -/
def RatioGe (r : Rat) (xs : List (Ext × Ext)) : Prop :=
  ∀ p ∈ xs, ∃ a b : Rat, p = (fin a, fin b) ∧ 0 < b ∧ r * b ≤ a

theorem run_level_ge (r : Rat) (xs : List (Ext × Ext)) (hx : RatioGe r xs) (s : State Ext) (q : Rat) (hq : s.level = fin q) :
    ∃ q' : Rat, (run ops lo hi s xs).level = fin q' ∧ r - (4 / 5) ^ xs.length * (r - q) ≤ q' := by
  induction xs generalizing s q with
  | nil => exact ⟨q, hq, by simp only [List.length_nil, Rat.pow_zero]; grind⟩
  | cons p xs ih =>
    obtain ⟨a, b, rfl, hb, hr⟩ := hx _ List.mem_cons_self
    obtain ⟨q1, e1, g1⟩ := update_level_ge s q a b r hq hb hr
    obtain ⟨q', e', g'⟩ := ih (fun p hp => hx p (List.mem_cons_of_mem _ hp)) _ q1 e1
    refine ⟨q', e', ?_⟩
    have hc : (0 : Rat) ≤ (4 / 5) ^ xs.length := Rat.pow_nonneg (by decide +kernel)
    have hm : (4 / 5 : Rat) ^ xs.length * (r - q1) ≤ (4 / 5) ^ xs.length * (4 / 5 * (r - q)) :=
      Rat.mul_le_mul_of_nonneg_left (by grind) hc
    simp only [List.length_cons, Rat.pow_succ]
    generalize (4 / 5 : Rat) ^ xs.length = c at *
    grind

/-- **general recovery bound**: after ANY history that left a finite non-negative level, `n ≥ 1` consecutive blocks whose band-energy
    ratio is at least `r` assert carrier detect as soon as `(4/5)^n · r < r − htrigger` — e.g. 4 blocks at ratio 8, 10 blocks at 4.5 -/
theorem dcd_recovers_within (r : Rat) (xs : List (Ext × Ext)) (hx : RatioGe r xs) (hne : xs ≠ [])
    (s : State Ext) (hs : Sane s) (hr0 : 0 ≤ r) (hn : (4 / 5) ^ xs.length * r < r - hiQ) :
    (run ops lo hi s xs).triggered = true := by
  obtain ⟨q0, hq0, h0⟩ := hs
  obtain ⟨q', e', g'⟩ := run_level_ge r xs hx s q0 hq0
  have hc : (0 : Rat) ≤ (4 / 5) ^ xs.length := Rat.pow_nonneg (by decide +kernel)
  have hm : (4 / 5 : Rat) ^ xs.length * (r - q0) ≤ (4 / 5) ^ xs.length * r := Rat.mul_le_mul_of_nonneg_left (by grind) hc
  have hq' : hiQ < q' := by
    generalize (4 / 5 : Rat) ^ xs.length = c at *
    grind
  obtain ⟨ys, p, rfl⟩ : ∃ ys p, xs = ys ++ [p] := ⟨xs.dropLast, xs.getLast hne, (List.dropLast_concat_getLast hne).symm⟩
  have hrun : run ops lo hi s (ys ++ [p]) = update ops lo hi (run ops lo hi s ys) p.1 p.2 := by
    simp only [run, List.foldl_append, List.foldl_cons, List.foldl_nil]
  rw [hrun] at e' ⊢
  exact update_triggered e' hq'

/-- a carrier present for four consecutive updates is detected: whatever finite non-negative level the history left
    behind (and whether or not `unlock` was called), four updates whose band-energy ratio is at least 8 assert carrier detect -/
theorem dcd_recovers (s : State Ext) (hs : Sane s) (a1 b1 a2 b2 a3 b3 a4 b4 : Rat)
    (h1 : 0 < b1 ∧ 8 * b1 ≤ a1) (h2 : 0 < b2 ∧ 8 * b2 ≤ a2) (h3 : 0 < b3 ∧ 8 * b3 ≤ a3) (h4 : 0 < b4 ∧ 8 * b4 ≤ a4) :
    (run ops lo hi s [(fin a1, fin b1), (fin a2, fin b2), (fin a3, fin b3), (fin a4, fin b4)]).triggered = true := by
  have hth := gen_thresholds
  have hp : ((4 / 5 : Rat) ^ 4) * 8 < 4 := by decide +kernel
  refine dcd_recovers_within 8 _ ?_ (by simp) s hs (by decide +kernel) (by show (4 / 5 : Rat) ^ 4 * 8 < 8 - hiQ; grind)
  simp only [RatioGe, List.forall_mem_cons]
  exact ⟨⟨_, _, rfl, h1⟩, ⟨_, _, rfl, h2⟩, ⟨_, _, rfl, h3⟩, ⟨_, _, rfl, h4⟩, by simp⟩

/-- the bound instantiated at the ratio measured on clean transmissions (≥ 4.5 on every block): ten blocks suffice -/
theorem dcd_recovers_10_at_4_5 (xs : List (Ext × Ext)) (hx : RatioGe (9 / 2) xs) (hl : xs.length = 10) (s : State Ext) (hs : Sane s) :
    (run ops lo hi s xs).triggered = true := by
  apply dcd_recovers_within (9 / 2) xs hx (List.ne_nil_of_length_pos (by omega)) s hs (by decide +kernel)
  rw [hl]
  have := gen_thresholds
  have h10 : ((4 / 5 : Rat) ^ 10) * (9 / 2) < 1 / 2 := by decide +kernel
  grind

/-- carrier detect, once asserted, survives an update when the level and the block's ratio are both above the low threshold -/
theorem dcd_holds (s : State Ext) (q a b : Rat) (hq : s.level = fin q) (hl : loQ < q) (ht : s.triggered = true)
    (hb : 0 < b) (hr : loQ * b < a) : (update ops lo hi s (fin a) (fin b)).triggered = true := by
  have hr' : loQ < a / b := by rw [Rat.lt_div_iff hb]; exact hr
  rw [update_fin s q a b hq, ht, if_pos hb, decide_eq_true_eq]
  grind

theorem unguarded_nan_step (s : State Ext) (l1 l2 : Ext) (h : s.triggered = false ∧ s.level = nan) :
    (updateUnguarded ops lo hi s l1 l2).triggered = false ∧ (updateUnguarded ops lo hi s l1 l2).level = nan := by
  unfold updateUnguarded
  simp only [h.1, h.2, ops, scale]
  cases Ext.div l1 l2 <;> simp [add, gt, hi]

/-- what the guard is for: without it, one update on exact digital silence makes the level NaN … -/
theorem unguarded_silence_is_nan (s : State Ext) (q : Rat) (hq : s.level = fin q) :
    (updateUnguarded ops lo hi s (fin 0) (fin 0)).level = nan ∧ (updateUnguarded ops lo hi s (fin 0) (fin 0)).triggered = false := by
  unfold updateUnguarded
  simp [hq, ops, div, scale, add, gt]

/-- … and from a NaN level no later band energies whatsoever can assert carrier detect again (the latch) -/
theorem unguarded_nan_latches (xs : List (Ext × Ext)) (s : State Ext) (hn : s.level = nan) (ht : s.triggered = false) :
    (xs.foldl (fun s p => updateUnguarded ops lo hi s p.1 p.2) s).triggered = false
      ∧ (xs.foldl (fun s p => updateUnguarded ops lo hi s p.1 p.2) s).level = nan :=
  List.foldlRecOn xs _ ⟨ht, hn⟩ fun s h p _ => unguarded_nan_step s p.1 p.2 h

/-- non-vacuity: digital silence followed by four blocks with ratio 10 -/
example : (run ops lo hi ⟨fin 0, false⟩ [(fin 0, fin 0), (fin 0, fin 0), (fin 10, fin 1), (fin 10, fin 1), (fin 10, fin 1), (fin 10, fin 1)]).triggered = true := by
  decide +kernel

end M17.C06
