/-
C20 — the link report of the documented pipeline, discrete half as ONE statement: a clean link setup frame built by the specification
transmitter (`Spec.Tx`, which `m17-mod` equals byte for byte — C13) for source `src`, destination `dst` and channel access number `can`,
decoded by the frame decoder model (C01F.lsf_roundtrip) and printed by the model of m17-demod's `dump_lsf` (tied by the `app_lsf` stream),
shows exactly `SRC: src, DEST: dst, STR:V/V CAN:can` and no packet-mode diagnostic.
-/
import M17.Props.C20
import M17.Props.C01F

namespace M17.C20P
open M17.App M17.Dec M17.C01F

def specIdx (c : Nat) : Nat := Spec.Tx.alphabet.findIdx (fun a => a.toNat == c)

def idxTableOK : Bool := (List.range 128).all fun c => !C17.validChar c || specIdx c == Call.charVal c
theorem idxTable_ok : idxTableOK = true := by decide +kernel

theorem specIdx_eq (c : Nat) (h : C17.validChar c = true) : specIdx c = Call.charVal c := by
  have hc := (C17.validChar_iff c).mp h
  have := Lists.all_range idxTable_ok (by omega : c < 128)
  rw [h] at this
  simpa using this

theorem spec_horner (cs : List Nat) (hv : ∀ c ∈ cs, C17.validChar c = true) :
    cs.reverse.foldl (fun acc c => acc * 40 + specIdx c) 0 = C17.horner (cs.map Call.charVal) := by
  rw [List.foldl_reverse]
  induction cs with
  | nil => rfl
  | cons c cs ih =>
    simp only [List.foldr, List.map, C17.horner]
    rw [ih (fun x hx => hv x (List.mem_cons_of_mem _ hx)), specIdx_eq c (hv c List.mem_cons_self)]
    omega

theorem toBytes_eq (v : Nat) : Call.toBytes v = (List.range 6).map fun i => v / 256 ^ (5 - i) % 256 := by
  unfold Call.toBytes
  simp [List.range, List.range.loop]

/-- **specification address = the address `encode_callsign` computes**, for every callsign of 1–9 alphabet characters -/
theorem spec_callsign_eq (cs : List Nat) (hv : ∀ c ∈ cs, C17.validChar c = true) (h1 : 1 ≤ cs.length) (h9 : cs.length ≤ 9) :
    Spec.Tx.callsign cs = Call.encode (Call.pad cs) := by
  have hne : cs.isEmpty = false := by cases cs with
    | nil => simp at h1
    | cons _ _ => rfl
  unfold Spec.Tx.callsign
  simp only [hne, Bool.false_eq_true, if_false]
  rw [C17.encode_pad cs (by omega), toBytes_eq]
  have := spec_horner cs hv
  unfold specIdx at this
  rw [this]

/-- … and no callsign means the broadcast address on both sides (`send_lsf`, `M17Modulator::encode_callsign`) -/
theorem spec_address_eq (cs : List Nat) (hv : ∀ c ∈ cs, C17.validChar c = true) (h9 : cs.length ≤ 9) :
    (if cs.isEmpty then List.replicate 6 255 else Call.encode (Call.pad cs)) = Spec.Tx.callsign cs := by
  cases cs with
  | nil => rfl
  | cons c cs => exact (spec_callsign_eq (c :: cs) hv (by simp) h9).symm

theorem callsign_length (cs : List Nat) : (Spec.Tx.callsign cs).length = 6 := by
  unfold Spec.Tx.callsign; split <;> simp

theorem callsign_bytes (cs : List Nat) : Bytes.AllBytes (Spec.Tx.callsign cs) := by
  intro b hb
  unfold Spec.Tx.callsign at hb
  split at hb
  · simp only [List.mem_replicate] at hb; omega
  · simp only [List.mem_map, List.mem_range] at hb
    obtain ⟨i, -, rfl⟩ := hb
    exact Nat.mod_lt _ (by decide)

structure LsfFacts (lsf dst src : List Nat) (typ : Nat) (metaB : List Nat) : Prop where
  len : lsf.length = 30
  bytes : Bytes.AllBytes lsf
  crc : Spec.crc16 lsf = 0
  dstField : lsf.take 6 = Spec.Tx.callsign dst
  srcField : (lsf.drop 6).take 6 = Spec.Tx.callsign src
  t12 : lsf.getD 12 0 = typ / 256 % 256
  t13 : lsf.getD 13 0 = typ % 256

theorem crcBytes_bytes (m : List Nat) : Bytes.AllBytes (Spec.crcBytes m) := by
  have := C09.crc16_lt m
  intro b hb
  simp only [Spec.crcBytes, List.mem_cons, List.not_mem_nil, or_false] at hb
  rcases hb with rfl | rfl <;> omega

theorem lsf_facts (dst src : List Nat) (typ : Nat) (metaB : List Nat) (hm : metaB.length = 14) (hmb : Bytes.AllBytes metaB) :
    LsfFacts (Spec.Tx.lsfBytes dst src typ metaB) dst src typ metaB := by
  have hd := callsign_length dst
  have hs := callsign_length src
  generalize hc : Spec.crcBytes (Spec.Tx.callsign dst ++ Spec.Tx.callsign src ++ [typ / 256 % 256, typ % 256] ++ metaB) = c
  have hcl : c.length = 2 := by rw [← hc]; rfl
  have hcb : Bytes.AllBytes c := hc ▸ crcBytes_bytes _
  have e : Spec.Tx.lsfBytes dst src typ metaB =
      Spec.Tx.callsign dst ++ (Spec.Tx.callsign src ++ ([typ / 256 % 256, typ % 256] ++ (metaB ++ c))) := by
    rw [← hc]; simp only [Spec.Tx.lsfBytes, List.append_assoc]
  refine ⟨?_, ?_, C09.append_crc_checks_zero _, ?_, ?_, ?_, ?_⟩
  · rw [e]; simp [hd, hs, hm, hcl]
  · rw [e]
    exact Bytes.allBytes_append.mpr ⟨callsign_bytes dst, Bytes.allBytes_append.mpr ⟨callsign_bytes src,
      Bytes.allBytes_append.mpr ⟨by simp [Bytes.AllBytes, Nat.mod_lt], Bytes.allBytes_append.mpr ⟨hmb, hcb⟩⟩⟩⟩
  · rw [e, List.take_left' hd]
  · rw [e, List.drop_left' hd, List.take_left' hs]
  · rw [e, Lists.getD_append_right (by omega), Lists.getD_append_right (by omega), hd, hs]; rfl
  · rw [e, Lists.getD_append_right (by omega), Lists.getD_append_right (by omega), hd, hs]; rfl

/-- TYPE bits the decoder inspects: bit 111 is the least significant bit of byte 13, bit 109 its bit 2 -/
theorem type_bits (lsf : List Nat) :
    (Spec.Tx.bitsOfBytes lsf).getD 111 false = decide (lsf.getD 13 0 % 2 = 1) ∧
    (Spec.Tx.bitsOfBytes lsf).getD 109 false = decide (lsf.getD 13 0 / 4 % 2 = 1) := by
  rw [Spec.Tx.bitsOfBytes_getD, Spec.Tx.bitsOfBytes_getD]
  exact ⟨Nat.testBit_zero _, Nat.testBit_eq_decide_div_mod_eq⟩

theorem printed_broadcast : printed (Call.decode (Spec.Tx.callsign [])) = "BROADCAST".toList.map Char.toNat := by decide +kernel

/-- **link report of a clean specification LSF frame**: decoded, reported, stream mode entered, and the fields m17-demod prints are the
    transmitter's: source callsign, destination callsign (or BROADCAST when none was given), `STR:V/V`, the channel access number, and no
    packet-mode diagnostic — for every pair of callsigns over the M17 alphabet (1–9 characters), every CAN 0–15, every META content, every
    decoder state and every clean soft image of the frame -/
theorem link_report (lo : Int) (hlo : 1 ≤ lo) (σ : DState) (cb : Bool) (src dst : List Nat)
    (hsv : ∀ c ∈ src, C17.validChar c = true) (hs1 : 1 ≤ src.length) (hs9 : src.length ≤ 9)
    (hdv : ∀ c ∈ dst, C17.validChar c = true) (hd9 : dst.length ≤ 9)
    (can : Nat) (hcan : can < 16) (metaB : List Nat) (hm : metaB.length = 14) (hmb : Bytes.AllBytes metaB)
    (frame : List Int) (hr : SoftImage lo (Spec.Tx.lsfFrameBits (Spec.Tx.lsfBytes dst src (Spec.Tx.voiceType can) metaB)) frame) :
    let lsf := Spec.Tx.lsfBytes dst src (Spec.Tx.voiceType can) metaB
    (step σ .lsf frame cb).calls = [⟨.lsf, lsf, cleanCost Gen.p1 frame 488⟩] ∧ (step σ .lsf frame cb).result = .ok ∧
    (step σ .lsf frame cb).state.mode = .stream ∧
    printed (Call.decode ((lsf.drop 6).take 6)) = src ∧
    printed (Call.decode (lsf.take 6)) = (if dst = [] then "BROADCAST".toList.map Char.toNat else dst) ∧
    typeName (lsf.getD 12 0 * 256 + lsf.getD 13 0) = "STR:V/V" ∧ canField (lsf.getD 12 0 * 256 + lsf.getD 13 0) = can ∧
    packetDiag (lsf.getD 13 0) = "" := by
  intro lsf
  have F : LsfFacts lsf dst src (Spec.Tx.voiceType can) metaB := lsf_facts dst src (Spec.Tx.voiceType can) metaB hm hmb
  have hrt := (lsf_roundtrip lo hlo σ lsf F.len F.bytes frame cb hr).1 F.crc
  clear_value lsf
  have htyp : lsf.getD 12 0 * 256 + lsf.getD 13 0 = Spec.Tx.voiceType can := by
    rw [F.t12, F.t13]; unfold Spec.Tx.voiceType; omega
  have hmode : updateState .lsf (Spec.Tx.bitsOfBytes lsf) = .stream := by
    obtain ⟨b111, b109⟩ := type_bits lsf
    unfold updateState
    rw [b111, b109, F.t13]
    unfold Spec.Tx.voiceType
    have e1 : (5 + 128 * can) % 256 % 2 = 1 := by omega
    have e2 : (5 + 128 * can) % 256 / 4 % 2 = 1 := by omega
    simp [e1, e2]
  rw [hrt, htyp, F.t13, F.srcField, F.dstField, spec_callsign_eq src hsv hs1 hs9]
  refine ⟨rfl, rfl, hmode, C20.callsign_report src hsv hs1 hs9, ?_, C20.type_report_voice can, C20.can_report can hcan,
    (C20.voice_lsf_is_stream can).2⟩
  cases dst with
  | nil => exact printed_broadcast
  | cons d ds =>
    rw [spec_callsign_eq _ hdv (by simp) hd9]
    exact C20.callsign_report _ hdv (by simp) hd9

end M17.C20P
