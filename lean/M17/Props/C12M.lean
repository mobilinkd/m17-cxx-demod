/-
C12 — "the second soft bit never decreases with the sample's magnitude", lifted from the table-level check `Monotone2` to every value:
for 0 ≤ x ≤ y the second soft bit of y is at least that of x, and for x ≤ y ≤ 0 the second soft bit of x is at least that of y.
-/
import M17.Props.C12

namespace M17.C12M
open M17.Llr M17.C12

theorem monotone2_pairwise (tbl : List E) (hm : Monotone tbl = true) (h2 : Monotone2 tbl = true) :
    tbl.Pairwise fun e f => e.1 < f.1 ∧ (f.1 ≤ one → f.2.2 ≤ e.2.2) ∧ (-one ≤ e.1 → e.2.2 ≤ f.2.2) := by
  simp only [Monotone, Monotone2, List.all_eq_true, Bool.and_eq_true, Bool.or_eq_true, Bool.not_eq_true',
    decide_eq_true_eq, decide_eq_false_iff_not, and_assoc] at hm h2
  obtain ⟨hadj, -, -⟩ := h2
  refine pairwise_of_adjacent (fun a b c h1 h2 => ⟨by omega, by omega, by omega⟩) tbl fun p hp => ⟨(hm p hp).1, ?_, ?_⟩
  · intro h; exact (hadj p hp).1.resolve_left (by omega)
  · intro h; exact (hadj p hp).2.resolve_left (by omega)

theorem lookup_first (tbl : List E) (hp : tbl.Pairwise fun e f => e.1 < f.1) {lo : Option Int} {s : Int}
    {r : Option Int × E × Bool} {f : E} (h : lookupP lo tbl s = some r) (hf : f ∈ tbl) (hs : s ≤ f.1) : r.2.1.1 ≤ f.1 := by
  fun_induction lookupP lo tbl s with
  | case1 => cases h
  | case2 => cases h; simp at hf; rw [hf]; exact Int.le_refl _
  | case3 _ e _ _ _ hse =>
    cases h
    rcases List.mem_cons.mp hf with rfl | hf
    · exact Int.le_refl _
    · exact Int.le_of_lt ((List.pairwise_cons.mp hp).1 f hf)
  | case4 _ e _ _ _ hse ih =>
    rcases List.mem_cons.mp hf with rfl | hf
    · omega
    · exact ih (List.pairwise_cons.mp hp).2 h hf hs

theorem lookup_up (tbl : List E) (hm : Monotone tbl = true) (h2 : Monotone2 tbl = true) {lo lo' : Option Int} {x y : Int}
    {r1 r2 : Option Int × E × Bool} (hx : -one ≤ x) (hxy : x ≤ y) (h1 : lookupP lo tbl x = some r1)
    (h3 : lookupP lo' tbl y = some r2) : r1.2.1.2.2 ≤ r2.2.1.2.2 := by
  rcases lookup_mono tbl (monotone2_pairwise tbl hm h2) hxy h1 h3 with hr | ⟨hx1, -, -, hup⟩
  · rw [hr]; exact Int.le_refl _
  · exact hup (by omega)

theorem lookup_down (tbl : List E) (hm : Monotone tbl = true) (h2 : Monotone2 tbl = true) {lo lo' : Option Int} {x y : Int}
    {r1 r2 : Option Int × E × Bool} (hxy : x ≤ y) (h1 : lookupP lo tbl x = some r1) (h3 : lookupP lo' tbl y = some r2)
    (hle : r2.2.1.1 ≤ one) : r2.2.1.2.2 ≤ r1.2.1.2.2 := by
  rcases lookup_mono tbl (monotone2_pairwise tbl hm h2) hxy h1 h3 with hr | ⟨-, -, hdown, -⟩
  · rw [hr]; exact Int.le_refl _
  · exact hdown hle

/-- **the second soft bit never decreases with the sample's magnitude** — every finite value (all floats and doubles, ±∞ as extreme values) -/
theorem llr0_monotone_in_abs (tbl : List E) (hm : Monotone tbl = true) (h2 : Monotone2 tbl = true) (x y : Int) :
    (0 ≤ x → x ≤ y → (llr tbl (.fin x)).2 ≤ (llr tbl (.fin y)).2) ∧
    (x ≤ y → y ≤ 0 → (llr tbl (.fin y)).2 ≤ (llr tbl (.fin x)).2) := by
  obtain ⟨t, ht, ht0, ht1⟩ : ∃ t ∈ tbl, 0 ≤ t.1 ∧ t.1 ≤ one := by
    simp only [Monotone2, Bool.and_eq_true, List.any_eq_true, decide_eq_true_eq, and_assoc] at h2
    obtain ⟨-, hany, -⟩ := h2
    exact hany
  have hne : tbl ≠ [] := by intro h; rw [h] at ht; simp at ht
  obtain ⟨r1, h1, l1⟩ := llr_bin tbl hne (.fin x)
  obtain ⟨r2, h3, l2⟩ := llr_bin tbl hne (.fin y)
  obtain ⟨hg, hg3, -, -, -, k⟩ := consts_ok
  rw [l1, l2]
  constructor <;> intro ha hb
  · exact lookup_up tbl hm h2 (by rw [clamp_eq]; omega) (clamp_mono x y hb) h1 h3
  · -- `y ≤ 0` is at or below the threshold `t`, so the bin of `y` ends at or before `t`, below +1
    have := lookup_first tbl ((monotone_pairwise tbl hm).imp fun h => h.1) h3 ht
      (by rw [clamp_eq]; omega)
    exact lookup_down tbl hm h2 (clamp_mono x y ha) h1 h3 (by omega)

/-- instances for the six tables of the current headers -/
theorem second_bit_monotone_all_tables (x y : Int) :
    ∀ tbl ∈ [Gen.llrF4, Gen.llrD4, Gen.llrF3, Gen.llrD3, Gen.llrF2, Gen.llrD2],
      (0 ≤ x → x ≤ y → (llr tbl (.fin x)).2 ≤ (llr tbl (.fin y)).2) ∧ (x ≤ y → y ≤ 0 → (llr tbl (.fin y)).2 ≤ (llr tbl (.fin x)).2) := by
  intro tbl h
  simp only [List.mem_cons, List.not_mem_nil, or_false] at h
  rcases h with rfl | rfl | rfl | rfl | rfl | rfl
  · exact llr0_monotone_in_abs _ table_F4.2.1 table_F4.2.2 x y
  · exact llr0_monotone_in_abs _ table_D4.2.1 table_D4.2.2 x y
  · exact llr0_monotone_in_abs _ table_F3.2.1 table_F3.2.2 x y
  · exact llr0_monotone_in_abs _ table_D3.2.1 table_D3.2.2 x y
  · exact llr0_monotone_in_abs _ table_F2.2.1 table_F2.2.2 x y
  · exact llr0_monotone_in_abs _ table_D2.2.1 table_D2.2.2 x y

end M17.C12M
