/-
C19 — DSP primitives equal their definitions (exact arithmetic, any commutative ring, every input length); the RRC tap
sets are symmetric and cascade to a Nyquist pulse.
Floating-point rounding is outside these theorems; it is covered by the correspondence stream (stated tolerance).
-/
import M17.Model.Dsp
import M17.Gen.Taps
import M17.Gen.TapsTx
import M17.Props.C19I
import M17.Lemmas.List

namespace M17.C19
open M17.Dsp Lean.Grind

variable {α : Type} [CommRing α]

theorem idx_next (n pos i : Nat) (hi : i < n) :
    ((if pos + 1 = n then 0 else pos + 1) + n - 1 - i) % n = (pos + n - i) % n := by
  split
  · rw [show pos + n - i = (0 + n - 1 - i) + n by omega, Nat.add_mod_right]
  · congr 1; omega

theorem idx_distinct {n pos k : Nat} (hp : pos < n) (hk : k + 1 < n) : (pos + n - 1 - k) % n ≠ pos := by
  by_cases h : k < pos
  · have e : pos + n - 1 - k = (pos - 1 - k) + n := by omega
    rw [e, Nat.add_mod_right, Nat.mod_eq_of_lt (by omega)]; omega
  · rw [Nat.mod_eq_of_lt (by omega)]; omega

/-- the `n` most recent inputs, newest first -/
def shiftIn (n : Nat) (past : List α) (x : α) : List α := (x :: past).take n

theorem getD_shiftIn {n i : Nat} (past : List α) (x : α) (h : i < n) : (shiftIn n past x).getD i 0 = (x :: past).getD i 0 := by
  rw [shiftIn, Lists.getD_take h]

/-- the circular buffer of `f` holds the shift register `past` (newest first) -/
def Holds (f : Fir α) (past : List α) : Prop :=
  f.history.length = f.taps.length ∧ f.pos < f.taps.length ∧ past.length = f.taps.length ∧
  ∀ i, i < f.taps.length → f.history.getD ((f.pos + f.taps.length - 1 - i) % f.taps.length) 0 = past.getD i 0

/-- dot product of the shift register with the taps: Σ_{i<N} x[n−i] · taps[i] -/
def dot (past taps : List α) : α :=
  (List.range taps.length).foldl (fun acc i => acc + past.getD i 0 * taps.getD i 0) 0

/-- a write at the write position keeps the last clause of `Holds` / `HoldsS`; on bare lists, so that `Fir` and `Sdft` share it -/
theorem ring_key {hist past : List α} {pos n : Nat} (x : α) (h1 : hist.length = n) (h2 : pos < n)
    (h4 : ∀ i, i < n → hist.getD ((pos + n - 1 - i) % n) 0 = past.getD i 0) :
    ∀ i, i < n → (hist.set pos x).getD (((if pos + 1 = n then 0 else pos + 1) + n - 1 - i) % n) 0
        = (shiftIn n past x).getD i 0 := by
  intro i hi
  rw [idx_next n pos i hi, Lists.getD_set, getD_shiftIn past x hi]
  cases i with
  | zero => rw [Nat.sub_zero, Nat.add_mod_right, Nat.mod_eq_of_lt h2, if_pos ⟨rfl, h1 ▸ h2⟩]; rfl
  | succ k =>
    rw [show pos + n - (k + 1) = pos + n - 1 - k by omega, if_neg (fun c => idx_distinct h2 hi c.1.symm), h4 k (by omega)]; rfl

theorem fir_step (f : Fir α) (past : List α) (x : α) (h : Holds f past) :
    (f.step x).2 = dot (shiftIn f.taps.length past x) f.taps ∧ Holds (f.step x).1 (shiftIn f.taps.length past x) := by
  obtain ⟨h1, h2, h3, h4⟩ := h
  have key := ring_key x h1 h2 h4
  constructor
  · unfold Fir.step dot
    simp only
    exact Lists.foldl_congr_range (fun acc i hi => by rw [key i hi]) _
  · unfold Holds
    simp only [Fir.step]
    refine ⟨by simp [h1], ?_, by simp [shiftIn, h3], ?_⟩
    · split <;> omega
    · intro i hi; exact key i hi

theorem init_holds (taps : List α) (h : 0 < taps.length) :
    Holds (Fir.init taps) (List.replicate taps.length 0) := by
  refine ⟨by simp [Fir.init], by simpa [Fir.init] using h, by simp [Fir.init], ?_⟩
  intro i _
  simp only [Fir.init, Lists.getD_replicate]

/-- the shift register after feeding `xs` to a zero-initialised filter -/
def regAfter (n : Nat) (xs : List α) : List α := xs.foldl (shiftIn n) (List.replicate n 0)

theorem run_taps (f : Fir α) (xs : List α) : (f.run xs).1.taps = f.taps := by
  induction xs generalizing f with
  | nil => rfl
  | cons x xs ih => simp only [Fir.run]; rw [ih]; rfl

/-- **FIR = convolution from a zero state, for every input length and every tap count**: the k-th output is the dot
    product of the taps with the last N inputs (zero before the start) -/
theorem fir_eq_convolution (taps : List α) (h : 0 < taps.length) (xs : List α) :
    ∀ (f : Fir α) (past : List α), Holds f past → f.taps = taps →
      (f.run xs).2 = (List.range xs.length).map (fun k => dot ((xs.take (k + 1)).foldl (shiftIn taps.length) past) taps) ∧
      Holds (f.run xs).1 (xs.foldl (shiftIn taps.length) past) := by
  induction xs with
  | nil => intro f past hh _; exact ⟨rfl, hh⟩
  | cons x xs ih =>
    intro f past hh ht
    obtain ⟨s1, s2⟩ := fir_step f past x hh
    have ht1 : (f.step x).1.taps = taps := by simp [Fir.step, ht]
    obtain ⟨i1, i2⟩ := ih (f.step x).1 (shiftIn taps.length past x) (by rw [← ht]; exact s2) ht1
    simp only [Fir.run, List.length_cons, List.foldl_cons]
    refine ⟨?_, i2⟩
    rw [i1, List.range_succ_eq_map, List.map_cons, List.map_map]
    simp only [List.take_succ_cons, List.foldl_cons, List.take_zero, List.foldl_nil]
    rw [s1, ht]
    rfl

/-- the state `reset()` leaves (`history_` zeroed, `pos_ = 0`) holds the zero shift register, like that of a fresh filter -/
theorem fir_reset (taps : List α) (h : 0 < taps.length) :
    Holds ({ (Fir.init taps) with history := List.replicate taps.length 0, pos := 0 } : Fir α) (List.replicate taps.length 0) :=
  init_holds taps h

/-- feeding a concatenation is feeding the pieces one after the other through the same filter object: one continuous
    run (used by C13 for the baseband) -/
theorem fir_run_append (f : Fir α) (xs ys : List α) :
    (f.run (xs ++ ys)).2 = (f.run xs).2 ++ ((f.run xs).1.run ys).2 ∧ (f.run (xs ++ ys)).1 = ((f.run xs).1.run ys).1 := by
  induction xs generalizing f with
  | nil => exact ⟨rfl, rfl⟩
  | cons x xs ih =>
    simp only [List.cons_append, Fir.run]
    obtain ⟨a, b⟩ := ih (f.step x).1
    exact ⟨by rw [a], b⟩

/-! ## IIR (direct form II, three coefficients, a0 = 1) realises its difference equation -/

/-- three consecutive calls satisfy y[n] + a1·y[n−1] + a2·y[n−2] = b0·x[n] + b1·x[n−1] + b2·x[n−2]; stated from rest, but `hrest`
    is not needed (`C19I.iir_three_any_state`) -/
theorem iir_difference_equation (f : Iir3 α) (x0 x1 x2 : α) (hrest : f.w1 = 0 ∧ f.w2 = 0) :
    let s0 := f.step x0; let s1 := s0.1.step x1; let s2 := s1.1.step x2
    s2.2 + f.a.2.1 * s1.2 + f.a.2.2 * s0.2 = f.b.1 * x2 + f.b.2.1 * x1 + f.b.2.2 * x0 :=
  C19I.iir_three_any_state f x0 x1 x2

/-- the general step: for ANY internal state `(w1, w2)`, the call computes `w0 = x − a1·w1 − a2·w2`, returns
    `b0·w0 + b1·w1 + b2·w2` and shifts the state — the direct-form-II realisation of the transfer function b(z)/a(z) -/
theorem iir_state_recurrence (f : Iir3 α) (x : α) :
    (f.step x).2 = f.b.1 * (x - f.a.2.1 * f.w1 - f.a.2.2 * f.w2) + f.b.2.1 * f.w1 + f.b.2.2 * f.w2 := by
  simp only [Iir3.step]
  grind

theorem iir_state_shift (f : Iir3 α) (x : α) :
    (f.step x).1.w1 = x - f.a.2.1 * f.w1 - f.a.2.2 * f.w2 ∧ (f.step x).1.w2 = f.w1 := ⟨rfl, rfl⟩

/-- Σ_m past[m] · w^(k+m+1) -/
def dftSum (w : α) : List α → Nat → α
  | [], _ => 0
  | p :: ps, k => p * w ^ (k + 1) + dftSum w ps (k + 1)

theorem dftSum_shift (w : α) (l : List α) (k : Nat) : dftSum w l (k + 1) = w * dftSum w l k := by
  induction l generalizing k with
  | nil => simp [dftSum]; grind
  | cons p ps ih => simp only [dftSum]; rw [ih]; grind

theorem dftSum_snoc (w : α) (l : List α) (a : α) (k : Nat) :
    dftSum w (l ++ [a]) k = dftSum w l k + a * w ^ (k + l.length + 1) := by
  induction l generalizing k with
  | nil => simp [dftSum]; grind
  | cons p ps ih =>
    simp only [List.cons_append, dftSum, List.length_cons]
    rw [ih]
    have : k + 1 + ps.length + 1 = k + (ps.length + 1) + 1 := by omega
    rw [this]; grind

/-- the sliding-DFT update: dropping the oldest sample `a` (whose factor `w^N` is 1) and taking in `x` -/
theorem dftSum_slide {w : α} {l : List α} {a x : α} (hw : w ^ (l.length + 1) = 1) :
    (dftSum w (l ++ [a]) 0 + (x - a)) * w = dftSum w (x :: l) 0 := by
  rw [dftSum_snoc, dftSum, dftSum_shift, Nat.zero_add, hw]
  grind

/-- the sliding-DFT state holds the window `past` (newest first) -/
def HoldsS (s : Sdft α) (past : List α) : Prop :=
  0 < s.samples.length ∧ s.index < s.samples.length ∧ past.length = s.samples.length ∧
  ∀ i, i < s.samples.length → s.samples.getD ((s.index + s.samples.length - 1 - i) % s.samples.length) 0 = past.getD i 0

/-- **sliding DFT closed form** (un-damped variant, `NSlidingDFT`): if the coefficient is an N-th root of unity
    (`w^N = 1`, true of `exp(−2πi·k/N)` for the configured integer bin `k`), the value kept and returned after each sample
    is Σ_{m<N} x[n−m]·w^(m+1): the DFT of the most recent N samples at that bin, up to a unit-modulus phase factor — so its
    magnitude is that of the direct DFT of the window -/
theorem nsdft_closed_form (s : Sdft α) (past : List α) (x : α) (h : HoldsS s past)
    (hw : s.coeff ^ s.samples.length = 1) (hd : s.damp = 1) (hr : s.result = dftSum s.coeff past 0) :
    (s.step x).2 = dftSum s.coeff (shiftIn s.samples.length past x) 0 ∧
    (s.step x).1.result = dftSum s.coeff (shiftIn s.samples.length past x) 0 ∧
    HoldsS (s.step x).1 (shiftIn s.samples.length past x) ∧ (s.step x).1.coeff = s.coeff ∧ (s.step x).1.damp = s.damp ∧
    (s.step x).1.samples.length = s.samples.length := by
  obtain ⟨h0, h1, h2, h3⟩ := h
  -- the window is its newest samples `l` followed by the oldest one `a`, which the slot about to be overwritten holds
  obtain ⟨l, a, rfl⟩ : ∃ l a, past = l ++ [a] :=
    ⟨_, _, (List.dropLast_concat_getLast (List.ne_nil_of_length_pos (h2 ▸ h0))).symm⟩
  have hn : s.samples.length = l.length + 1 := by simpa using h2.symm
  have hold : s.samples.getD s.index 0 = a := by
    have := h3 l.length (by omega)
    rw [hn, show s.index + (l.length + 1) - 1 - l.length = s.index by omega, Nat.mod_eq_of_lt (by omega)] at this
    simpa using this
  have hval : (s.result + (x - s.samples.getD s.index 0)) * s.coeff = dftSum s.coeff (shiftIn s.samples.length (l ++ [a]) x) 0 := by
    rw [hold, hr, shiftIn, hn, List.take_succ_cons, List.take_left' rfl]
    exact dftSum_slide (hn ▸ hw)
  refine ⟨hval, ?_, ?_, rfl, rfl, by simp [Sdft.step]⟩
  · simp only [Sdft.step, hd]
    rw [hval]; grind
  · unfold HoldsS
    simp only [Sdft.step, List.length_set]
    refine ⟨h0, by split <;> omega, by simp [shiftIn, h2], ?_⟩
    exact ring_key x rfl h1 h3

/-- exact tap values in units of 2^(1000−1074) = 2^-74 (every tap of the four tables is a multiple of that unit — checked
    by `tapsExact`; only ratios matter below, so the common unit is immaterial) -/
def tv (l : List (Int × Nat)) : List Int := l.map fun p => p.1 * ((2 ^ (p.2 - 1000) : Nat) : Int)

def tapsExact (l : List (Int × Nat)) : Bool := l.all fun p => decide (1000 ≤ p.2)

def dotI (a b : List Int) : Int := (List.zipWith (· * ·) a b).foldl (· + ·) 0

/-- k-th coefficient of the cascade (discrete convolution) of two tap sets -/
def cascade (a b : List Int) (k : Nat) : Int :=
  dotI (a.take (k + 1)) (((b ++ List.replicate a.length 0).take (k + 1)).reverse)

/-- symmetric about the centre of its first `n` entries (the 150-entry tables end with a literal 0.0) -/
def symmetric (t : List Int) (n : Nat) : Bool := (t.take n) == (t.take n).reverse && (t.drop n).all (· == 0)

/-- Nyquist criterion of the cascade at 10 samples per symbol: main tap at `p` positive and the largest; every
    symbol-spaced side tap below 0.5 % of it; their absolute sum below 2 % -/
def nyquistOK (a b : List Int) (p : Nat) : Bool :=
  let c := cascade a b
  let side := (List.range 30).flatMap fun j => if j == 0 then [] else [c (p + 10 * j), if 10 * j ≤ p then c (p - 10 * j) else 0]
  decide (0 < c p) && side.all (fun v => decide (200 * v.natAbs < (c p).natAbs)) &&
  decide (50 * (side.map Int.natAbs).foldl (· + ·) 0 < (c p).natAbs) &&
  (List.range (a.length + b.length)).all (fun k => decide (c k ≤ c p))

/-- all four tap sets in the repository are symmetric about their peak -/
theorem taps_symmetric :
    symmetric (tv Gen.rxTapsF) 149 = true ∧ symmetric (tv Gen.rxTapsD) 149 = true ∧
    symmetric (tv Gen.txTaps150) 149 = true ∧ symmetric (tv Gen.modTaps79) 79 = true := by decide +kernel

/-! The cascade is the product of the two tap sets as polynomials (`pmul`), and the product of two polynomials with small
    coefficients is read off ONE product of integers (`cascade_kron`), which the kernel computes with its big-number arithmetic.
    On `cascade` itself, or on `pmul`, the kernel spends some 50 million steps walking lists. -/

theorem dotI_eq_sum (a b : List Int) : dotI a b = (List.zipWith (· * ·) a b).sum := by
  simp [dotI, List.sum_eq_foldl]

def padd : List Int → List Int → List Int
  | x :: xs, y :: ys => (x + y) :: padd xs ys
  | [], ys => ys
  | xs, [] => xs

/-- coefficients of the product of the polynomials `a` and `b`, one per lag: `a.length + b.length` of them -/
def pmul : List Int → List Int → List Int
  | [], b => b.map fun _ => 0
  | x :: a, b => padd (b.map (x * ·)) (0 :: pmul a b)

theorem length_padd (xs ys : List Int) : (padd xs ys).length = max xs.length ys.length := by
  fun_induction padd <;> simp [*] <;> omega

theorem length_pmul (a b : List Int) : (pmul a b).length = a.length + b.length := by
  induction a with
  | nil => simp [pmul]
  | cons x a ih => simp [pmul, length_padd, ih]; omega

theorem getD_padd (xs ys : List Int) (k : Nat) : (padd xs ys)[k]?.getD 0 = xs[k]?.getD 0 + ys[k]?.getD 0 := by
  fun_induction padd generalizing k <;> cases k <;> simp [*]

theorem getD_pmul_cons (x : Int) (a b : List Int) (k : Nat) :
    (pmul (x :: a) b)[k]?.getD 0 = x * b[k]?.getD 0 + (0 :: pmul a b)[k]?.getD 0 := by
  rw [pmul, getD_padd]
  cases h : b[k]? <;> simp [h]

theorem dotI_pad (a b : List Int) (n k : Nat) (h : k < b.length + n) :
    dotI (a.take (k + 1)) ((b ++ List.replicate n 0).take (k + 1)).reverse = (pmul a b)[k]?.getD 0 := by
  have hl (k : Nat) (h : k < b.length + n) : k < (b ++ List.replicate n 0).length := by simp; omega
  have hb (k : Nat) (h : k < b.length + n) : (b ++ List.replicate n 0)[k]'(hl k h) = b[k]?.getD 0 := by
    by_cases h' : k < b.length <;> simp [List.getElem_append, h']
  induction a generalizing k with
  | nil => simp only [List.take_nil, pmul, List.getElem?_map]; cases b[k]? <;> rfl
  | cons x a ih =>
    rw [getD_pmul_cons, List.take_succ_cons, List.take_succ_eq_append_getElem (hl k h), List.reverse_append, dotI_eq_sum, hb k h]
    cases k with
    | zero => simp
    | succ k => simp [← dotI_eq_sum, ih k (by omega)]

theorem dotI_zeros (a r : List Int) : dotI a (List.replicate a.length 0 ++ r) = 0 := by
  induction a with
  | nil => rfl
  | cons x a ih => simpa [dotI, List.replicate_succ] using ih

theorem cascade_eq_getD (a b : List Int) (k : Nat) : cascade a b k = (pmul a b).getD k 0 := by
  rw [cascade, List.getD_eq_getElem?_getD]
  by_cases h : k < a.length + b.length
  · exact dotI_pad a b a.length k (by omega)
  · -- past the last lag only the padding meets `a`
    rw [List.take_of_length_le (by omega), List.take_of_length_le (by simp; omega), List.reverse_append, List.reverse_replicate, dotI_zeros,
      List.getElem?_eq_none (by rw [length_pmul]; omega)]
    rfl

def ev (m : Nat) : List Int → Int
  | [] => 0
  | x :: p => x + m * ev m p

theorem ev_padd (m : Nat) (u v : List Int) : ev m (padd u v) = ev m u + ev m v := by
  fun_induction padd <;> simp only [ev, *] <;> grind

theorem ev_pmul (m : Nat) (a b : List Int) : ev m (pmul a b) = ev m a * ev m b := by
  have hmap (x : Int) : ev m (b.map (x * ·)) = x * ev m b := by
    induction b with
    | nil => simp [ev]
    | cons y b ih => simp only [List.map_cons, ev, ih]; grind
  induction a with
  | nil => simpa [pmul, ev] using hmap 0
  | cons x a ih => rw [pmul, ev_padd, hmap, ev, ev, ih]; grind

theorem digit_ev (m : Nat) (c : List Int) (h : ∀ x ∈ c, 0 ≤ x ∧ x < m) (k : Nat) : ev m c / (m : Int) ^ k % m = c[k]?.getD 0 := by
  induction c generalizing k with
  | nil => simp [ev]
  | cons x c ih =>
    obtain ⟨h0, h1⟩ := h x List.mem_cons_self
    cases k with
    | zero => rw [ev, Int.pow_zero, Int.ediv_one, Int.add_mul_emod_self_left, Int.emod_eq_of_lt h0 h1]; rfl
    | succ k =>
      rw [ev, Int.pow_succ', ← Int.ediv_ediv_of_nonneg (by omega), Int.add_mul_ediv_left _ _ (by omega), Int.ediv_eq_zero_of_lt h0 h1,
        Int.zero_add, ih (fun y hy => h y (List.mem_cons_of_mem _ hy))]
      rfl

theorem ev_map_add (m : Nat) (h : Int) (c : List Int) : ev m (c.map (· + h)) = ev m c + ev m (List.replicate c.length h) := by
  induction c with
  | nil => rfl
  | cons x c ih => simp only [List.map_cons, List.length_cons, List.replicate_succ, ev, ih]; grind

theorem natAbs_pmul (a b : List Int) (M : Nat) (hb : ∀ y ∈ b, y.natAbs ≤ M) (k : Nat) :
    ((pmul a b)[k]?.getD 0).natAbs ≤ (a.map Int.natAbs).sum * M := by
  have hbk (k : Nat) : (b[k]?.getD 0).natAbs ≤ M := by
    cases h : b[k]? with
    | none => simp
    | some y => exact hb y (List.mem_of_getElem? h)
  induction a generalizing k with
  | nil => simp only [pmul, List.getElem?_map]; cases b[k]? <;> simp
  | cons x a ih =>
    rw [getD_pmul_cons, List.map_cons, List.sum_cons, Nat.add_mul]
    refine Nat.le_trans (Int.natAbs_add_le _ _) (Nat.add_le_add ?_ ?_)
    · rw [Int.natAbs_mul]; exact Nat.mul_le_mul_left _ (hbk k)
    · cases k with
      | zero => simp
      | succ k => simpa using ih k

def coef (m : Nat) (V : Int) (k : Nat) : Int := V / (m : Int) ^ k % m - m / 2

/-- Kronecker substitution: with every coefficient raised by `m / 2` into the range of a digit, the product of two polynomials is read
    off the product of their values at `m` -/
theorem cascade_kron (m : Nat) (a b : List Int) (M : Nat) (hb : ∀ y ∈ b, y.natAbs ≤ M)
    (hm : 2 * ((a.map Int.natAbs).sum * M) < m) (k : Nat) :
    cascade a b k = if k < a.length + b.length then
      coef m (ev m a * ev m b + ev m (List.replicate (a.length + b.length) (m / 2))) k else 0 := by
  rw [cascade_eq_getD, ← ev_pmul, ← length_pmul, ← ev_map_add, coef, digit_ev, List.getElem?_map, List.getD_eq_getElem?_getD]
  · split
    · rw [List.getElem?_eq_getElem ‹_›]; simp
    · rw [List.getElem?_eq_none (by omega)]; rfl
  · intro x hx
    obtain ⟨y, hy, rfl⟩ := List.mem_map.mp hx
    obtain ⟨j, hj⟩ := List.mem_iff_getElem?.mp hy
    have := natAbs_pmul a b M hb j
    rw [hj] at this
    simp only [Option.getD_some] at this
    omega

/-- every transmit/receive pairing cascades to a Nyquist pulse (side taps < 0.5 %, sum < 2 %) -/
theorem cascade_nyquist :
    nyquistOK (tv Gen.txTaps150) (tv Gen.rxTapsD) 148 = true ∧ nyquistOK (tv Gen.txTaps150) (tv Gen.rxTapsF) 148 = true ∧
    nyquistOK (tv Gen.modTaps79) (tv Gen.rxTapsD) 113 = true ∧ nyquistOK (tv Gen.modTaps79) (tv Gen.rxTapsF) 113 = true := by
  -- no tap exceeds 2^90 units (65536.0) and a tap set has at most 150 entries, so every coefficient of a product lies within
  -- ±150 · 2^180: digits of 256 bits hold them with room to spare
  simp only [nyquistOK,
    cascade_kron (2 ^ 256) (tv Gen.txTaps150) (tv Gen.rxTapsD) (2 ^ 90) (by decide +kernel) (by decide +kernel),
    cascade_kron (2 ^ 256) (tv Gen.txTaps150) (tv Gen.rxTapsF) (2 ^ 90) (by decide +kernel) (by decide +kernel),
    cascade_kron (2 ^ 256) (tv Gen.modTaps79) (tv Gen.rxTapsD) (2 ^ 90) (by decide +kernel) (by decide +kernel),
    cascade_kron (2 ^ 256) (tv Gen.modTaps79) (tv Gen.rxTapsF) (2 ^ 90) (by decide +kernel) (by decide +kernel)]
  decide +kernel

theorem taps_exact : tapsExact Gen.rxTapsF = true ∧ tapsExact Gen.rxTapsD = true ∧ tapsExact Gen.txTaps150 = true ∧
    tapsExact Gen.modTaps79 = true := by decide +kernel

theorem gen_tx_scale : Gen.txScale = 7168 ∧ Gen.txTaps150.length = 150 ∧ Gen.modTaps79.length = 79 ∧
    Gen.rxTapsF.length = 150 ∧ Gen.rxTapsD.length = 150 := by decide +kernel

/-- the correlator's IIR denominators have a0 = 1.0 (= 2^52 · 2^1022 units of 2^-1074) -/
theorem corr_a0_one : (Gen.corrAF.head?.map fun p => (p.1 == 4503599627370496 && p.2 == 1022)) = some true ∧
    (Gen.corrAD.head?.map fun p => (p.1 == 4503599627370496 && p.2 == 1022)) = some true := by
  decide +kernel

end M17.C19
