/-
C05 — a link setup frame is reported only if it passes the M17 CRC, whatever preceded it; LICH reassembly is exact
and an out-of-range fragment number never touches collected state.
-/
import M17.Lemmas.Decoder
import M17.Props.C04
import M17.Props.C09

namespace M17.C05
open M17.Dec

theorem gen_maxLichFragment : Gen.maxLichFragment = 5 := by decide

theorem crcOf_is_m17_crc (bytes : List Nat) : crcOf bytes = Spec.crc16 bytes := C09.impl_eq_spec bytes

-- the only branch of either decoder that issues a `.lsf` callback sits under `if crcOf … = 0` (of the decoded bytes; of the reassembled buffer)
-- the two gates are stated for a variable buffer: inlined below, where the buffer is the conditioned frame, the same `grind` costs over ten times as much
theorem decodeLsf_gate (σ : DState) (buf : List Int) :
    ∀ c ∈ (decodeLsf σ buf).calls, c.ftype = .lsf → crcOf c.bytes = 0 := by
  simp only [decodeLsf]
  grind

theorem decodeLich_gate (σ : DState) (buf : List Int) :
    ∀ c ∈ (decodeLich σ buf).calls, c.ftype = .lsf → crcOf c.bytes = 0 := by
  simp only [decodeLich]
  grind

theorem lsf_callback_crc_valid_step (σ : DState) (sync : Sync) (frame : List Int) (cb : Bool) :
    ∀ c ∈ (step σ sync frame cb).calls, c.ftype = .lsf → crcOf c.bytes = 0 := by
  cases sync
  · rw [step_lsf]; exact decodeLsf_gate _ _
  · rw [step_stream]
    split
    · exact decodeLich_gate _ _
    · simp [decodeStream]
    · simp
  · rw [step_packet]
    split
    · simp only [decodePacket]; split <;> simp
    · simp only [decodePacket]; split <;> simp
    · simp
  · rw [step_bert]; simp [decodeBert]

/-- one frame of a history: (sync type, content, callback result) -/
abbrev Frame := Sync × List Int × Bool

def runCalls : DState → List Frame → List Callback
  | _, [] => []
  | σ, (s, f, cb) :: rest => (step σ s f cb).calls ++ runCalls (step σ s f cb).state rest

/-- **every history, every initial state** (including one left behind by `reset()` with a stale LICH mask): a link
    setup frame is reported only if its 30 bytes pass the M17 CRC -/
theorem lsf_callback_crc_valid (σ : DState) (h : List Frame) :
    ∀ c ∈ runCalls σ h, c.ftype = .lsf → Spec.crc16 c.bytes = 0 := by
  induction h generalizing σ with
  | nil => intro c hc; simp [runCalls] at hc
  | cons x rest ih =>
    obtain ⟨s, f, cb⟩ := x
    intro c hc hk
    simp only [runCalls, List.mem_append] at hc
    rcases hc with hc | hc
    · rw [← crcOf_is_m17_crc]; exact lsf_callback_crc_valid_step σ s f cb c hc hk
    · exact ih _ c hc hk

/-- `reset()` leaves the LICH mask and buffer as they were — harmless, by the theorem above -/
theorem stale_mask_harmless (σ : DState) (h : List Frame) :
    ∀ c ∈ runCalls (reset σ) h, c.ftype = .lsf → Spec.crc16 c.bytes = 0 := lsf_callback_crc_valid _ h

/-- the five bytes held for LICH position `i` -/
def slot (lsf : List Nat) (i : Nat) : List Nat := (lsf.drop (5 * i)).take 5

theorem slot_getElem? {lsf : List Nat} {i j : Nat} (hj : j < 5) : (slot lsf i)[j]? = lsf[5 * i + j]? := by
  unfold slot; rw [List.getElem?_take, if_pos hj, List.getElem?_drop]

theorem slot_length (lsf : List Nat) (i : Nat) (hl : lsf.length = 30) (hi : i ≤ 5) : (slot lsf i).length = 5 := by
  unfold slot; simp; omega

theorem slot_ext {a b : List Nat} (ha : a.length = 30) (hb : b.length = 30) (h : ∀ i, i ≤ 5 → slot a i = slot b i) : a = b := by
  apply List.ext_getElem?
  intro k
  by_cases hk : k < 30
  · have := congrArg (·[k % 5]?) (h (k / 5) (by omega))
    simpa only [slot_getElem? (Nat.mod_lt k (by decide)), Nat.div_add_mod] using this
  · rw [List.getElem?_eq_none (by omega), List.getElem?_eq_none (by omega)]

theorem setSlot_length {lsf five : List Nat} {n : Nat} (hl : lsf.length = 30) (hn : n ≤ 5) (h5 : five.length = 5) :
    (setSlot lsf n five).length = 30 := by
  unfold setSlot; simp; omega

theorem slot_setSlot {lsf five : List Nat} {n : Nat} (i : Nat) (hl : lsf.length = 30) (hn : n ≤ 5) (h5 : five.length = 5) :
    slot (setSlot lsf n five) i = if i = n then five else slot lsf i := by
  have hA : (lsf.take (5 * n)).length = 5 * n := by rw [List.length_take]; omega
  unfold slot setSlot
  rcases Nat.lt_trichotomy i n with h | rfl | h
  · rw [if_neg (by omega), List.append_assoc, List.drop_append_of_le_length (by omega),
      List.take_append_of_le_length (by rw [List.length_drop]; omega), List.drop_take, List.take_take]
    congr 1; omega
  · rw [if_pos rfl, List.append_assoc, List.drop_left' hA, List.take_left' h5]
  · rw [if_neg (by omega), List.drop_append, List.drop_of_length_le (by rw [List.length_append]; omega), List.nil_append, List.drop_drop,
      List.length_append, hA, h5]
    congr 2; omega

theorem slot_setSlot_slot {lsf l : List Nat} {n i : Nat} (hl : lsf.length = 30) (hl' : l.length = 30) (hn : n ≤ 5)
    (hi : i ≠ n → slot lsf i = slot l i) : slot (setSlot lsf n (slot l n)) i = slot l i := by
  rw [slot_setSlot i hl hn (slot_length l n hl' hn)]
  split
  · rw [‹i = n›]
  · exact hi ‹_›

theorem setSlot_completes {lsf l : List Nat} {n : Nat} (hl : lsf.length = 30) (hl' : l.length = 30) (hn : n ≤ 5)
    (hothers : ∀ i, i ≤ 5 → i ≠ n → slot lsf i = slot l i) : setSlot lsf n (slot l n) = l :=
  slot_ext (setSlot_length hl hn (slot_length l n hl' hn)) hl' fun i hi => slot_setSlot_slot hl hl' hn (hothers i hi)

/-- **an out-of-range fragment number never touches collected state** (fragment numbers 6 and 7) -/
theorem out_of_range_inert (σ : DState) (frame : List Int) (cb : Bool) (lich : List Nat) (hm : σ.mode = .lsf)
    (hu : unpackLich (Cond.deinterleaveSoft (Cond.randSoft frame)) = some lich)
    (hfn : (lich.getD 5 0 >>> 5) % 8 > 5) :
    (step σ .stream frame cb).state = σ ∧ (step σ .stream frame cb).result = .incomplete ∧
    (step σ .stream frame cb).calls = [⟨.lich, lich, 0⟩] := by
  rw [step_stream_lsf hm]
  unfold decodeLich; rw [hu]
  simp only [gen_maxLichFragment, hfn, if_true, and_self]

/-- **exact reassembly**: while waiting for link setup, when a fragment for position `n ≤ 5` arrives, all six
    positions are then held, and the buffer then equals an LSF `l` whose CRC checks — in particular when every other
    position already held the bytes of `l` and this fragment carries `l`'s bytes (`setSlot_completes`) — that very step
    reports `l` bit-exact, returns OK, enters stream mode and clears the collection -/
theorem lich_reassembly_exact (σ : DState) (frame : List Int) (cb : Bool) (lich l : List Nat) (hm : σ.mode = .lsf)
    (hu : unpackLich (Cond.deinterleaveSoft (Cond.randSoft frame)) = some lich)
    (hfn : (lich.getD 5 0 >>> 5) % 8 ≤ 5)
    (hall : ((σ.mask ||| 2 ^ ((lich.getD 5 0 >>> 5) % 8)) % 256) % 64 = 63)
    (hl : setSlot σ.lsfBuf ((lich.getD 5 0 >>> 5) % 8) (lich.take 5) = l) (hcrc : Spec.crc16 l = 0) :
    (step σ .stream frame cb).calls = [⟨.lich, lich, 0⟩, ⟨.lsf, l, 0⟩] ∧ (step σ .stream frame cb).result = .ok ∧
    (step σ .stream frame cb).state = { mode := .stream, mask := 0, lsfBuf := l } ∧ (step σ .stream frame cb).cost = some 0 := by
  have hc : crcOf l = 0 := by rw [crcOf_is_m17_crc]; exact hcrc
  rw [step_stream_lsf hm]
  unfold decodeLich; rw [hu]
  have hnot : ¬ (lich.getD 5 0 >>> 5) % 8 > 5 := by omega
  simp only [gen_maxLichFragment, hnot, if_false, hall, ne_eq, not_true_eq_false, hl, hc, if_true, and_self]

/-- while fewer than six positions are held, or the held bytes do not pass the CRC (mixed transmissions), nothing is
    reported beyond the LICH fragment itself and the decoder keeps waiting -/
theorem lich_incomplete (σ : DState) (frame : List Int) (cb : Bool) (lich : List Nat) (hm : σ.mode = .lsf)
    (hu : unpackLich (Cond.deinterleaveSoft (Cond.randSoft frame)) = some lich)
    (hfn : (lich.getD 5 0 >>> 5) % 8 ≤ 5)
    (h : ((σ.mask ||| 2 ^ ((lich.getD 5 0 >>> 5) % 8)) % 256) % 64 ≠ 63 ∨
         Spec.crc16 (setSlot σ.lsfBuf ((lich.getD 5 0 >>> 5) % 8) (lich.take 5)) ≠ 0) :
    (step σ .stream frame cb).calls = [⟨.lich, lich, 0⟩] ∧ (step σ .stream frame cb).result = .incomplete ∧
    (step σ .stream frame cb).state.mode = .lsf ∧
    (step σ .stream frame cb).state.lsfBuf = setSlot σ.lsfBuf ((lich.getD 5 0 >>> 5) % 8) (lich.take 5) := by
  rw [step_stream_lsf hm]
  unfold decodeLich; rw [hu]
  have hnot : ¬ (lich.getD 5 0 >>> 5) % 8 > 5 := by omega
  simp only [gen_maxLichFragment, hnot, if_false]
  split
  · exact ⟨rfl, rfl, hm, rfl⟩
  · -- all six positions held: by `h` the CRC fails
    rw [if_neg (by rw [crcOf_is_m17_crc]; exact h.resolve_left ‹_›)]
    exact ⟨rfl, rfl, hm, rfl⟩

/-- the four 12-bit values carried by six LICH bytes -/
def lichWords (b : List Nat) : List Nat :=
  [b.getD 0 0 * 16 + b.getD 1 0 / 16, (b.getD 1 0 % 16) * 256 + b.getD 2 0,
   b.getD 3 0 * 16 + b.getD 4 0 / 16, (b.getD 4 0 % 16) * 256 + b.getD 5 0]

theorem repack {x y : Nat} (hy : y < 4096) : ((x % 16) <<< 4 ||| y >>> 8) % 256 = (x % 16) * 16 + y / 256 := by
  have h1 : y >>> 8 < 2 ^ 4 := by rw [Nat.shiftRight_eq_div_pow]; omega
  rw [← Nat.shiftLeft_add_eq_or_of_lt h1, Nat.shiftLeft_eq, Nat.shiftRight_eq_div_pow]
  omega

theorem unpack3 (x y z : Nat) (hx : x < 256) (hy : y < 256) (hz : z < 256) :
    [(x * 16 + y / 16) >>> 4 % 256, (((x * 16 + y / 16) % 16) <<< 4 ||| ((y % 16) * 256 + z) >>> 8) % 256, ((y % 16) * 256 + z) % 256] = [x, y, z] := by
  rw [repack (by omega)]
  simp only [Nat.shiftRight_eq_div_pow, List.cons.injEq, and_true]
  refine ⟨?_, ?_, ?_⟩ <;> omega

/-- **each Golay word may carry up to three bit errors (parity bit included)**: the unpacked LICH is the transmitted one -/
theorem unpack_lich_correct (buf : List Int) {b0 b1 b2 b3 b4 b5 e0 e1 e2 e3 : Nat}
    (l0 : b0 < 256) (l1 : b1 < 256) (l2 : b2 < 256) (l3 : b3 < 256) (l4 : b4 < 256) (l5 : b5 < 256)
    (he : ∀ e ∈ [e0, e1, e2, e3], e < 2 ^ 24 ∧ Golay.wtN 24 e ≤ 3)
    (h0 : hardWord ((buf.drop (24 * 0)).take 24) = Golay.encode24 (b0 * 16 + b1 / 16) ^^^ e0)
    (h1 : hardWord ((buf.drop (24 * 1)).take 24) = Golay.encode24 ((b1 % 16) * 256 + b2) ^^^ e1)
    (h2 : hardWord ((buf.drop (24 * 2)).take 24) = Golay.encode24 (b3 * 16 + b4 / 16) ^^^ e2)
    (h3 : hardWord ((buf.drop (24 * 3)).take 24) = Golay.encode24 ((b4 % 16) * 256 + b5) ^^^ e3) :
    unpackLich buf = some [b0, b1, b2, b3, b4, b5] := by
  simp only [List.forall_mem_cons] at he
  obtain ⟨⟨a0, w0⟩, ⟨a1, w1⟩, ⟨a2, w2⟩, ⟨a3, w3⟩, -⟩ := he
  obtain ⟨o0, q0, r0⟩ := C04.decode_corrects (b0 * 16 + b1 / 16) e0 (by omega) a0 w0
  obtain ⟨o1, q1, r1⟩ := C04.decode_corrects ((b1 % 16) * 256 + b2) e1 (by omega) a1 w1
  obtain ⟨o2, q2, r2⟩ := C04.decode_corrects (b3 * 16 + b4 / 16) e2 (by omega) a2 w2
  obtain ⟨o3, q3, r3⟩ := C04.decode_corrects ((b4 % 16) * 256 + b5) e3 (by omega) a3 w3
  unfold unpackLich
  simp only [h0, h1, h2, h3, q0, q1, q2, q3, r0, r1, r2, r3]
  show some ([_, _, _] ++ [_, _, _]) = _
  rw [unpack3 b0 b1 b2 l0 l1 l2, unpack3 b3 b4 b5 l3 l4 l5]; rfl

example : lichWords [0xAB, 0xCD, 0xEF, 0x12, 0x34, 0x56] = [0xABC, 0xDEF, 0x123, 0x456] := by decide

end M17.C05
