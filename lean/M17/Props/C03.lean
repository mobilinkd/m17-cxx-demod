/-
C03 — the demodulator's sync/frame state machine keeps frame boundaries exact in stream reception, for every signal.
Theorems about the control skeleton `M17.Demod.step` under ALL event sequences (the analog parts are the events);
the real demodulator's traces are checked to be traces of this skeleton on every run (tools/props/c03.py).
State codes (`St.st`) as in `Model/Demod.lean`: 0 UNLOCKED, 2 STREAM_SYNC, 5 SYNC_WAIT, 6 FRAME.
-/
import M17.Model.Demod
namespace M17.C03
open M17.Demod

theorem gen_consts : MINS = 78 ∧ MAXS = 86 ∧ MAXMISS = 10 ∧ SCOST = 80 ∧ PCOST = 60 ∧ BLK = 192 := by decide

/-! Each part of `step` is described once, by the fields it leaves alone and by its possible outcomes on the others; the
invariants below are case analyses on these outcomes and never unfold a handler again.  Projections are pushed through
the handlers' `if`s with `apply_ite`: splitting a handler into its branches costs twenty times as much. -/

/-- `m` is `s` after `count_++` and `correlator.sample()` -/
structure Advanced (s m : St) : Prop where
  st : m.st = s.st
  sc : m.sc = s.sc
  msc : m.msc = s.msc
  fi : m.fi = s.fi
  frames : m.frames = s.frames
  dcd : m.dcd = s.dcd
  cost : m.cost = s.cost
  ci : m.ci = (s.ci + 1) % 10
  si : s.ncr = false → m.si = s.si ∧ m.ncr = false

theorem advance_tick (s : St) : Advanced s (advance (tick s)) := by
  simp only [tick]
  constructor
  case si =>
    intro hn
    simp only [advance, hn, apply_ite St.si, apply_ite St.ncr, Bool.false_eq_true, if_false, ite_self, and_self]
  all_goals
    simp only [advance, apply_ite St.st, apply_ite St.sc, apply_ite St.msc, apply_ite St.fi, apply_ite St.frames, apply_ite St.dcd,
      apply_ite St.cost, apply_ite St.ci, ite_self]

theorem updateDcd_on {s : St} {d : Bool} (hd : s.dcd = true) : updateDcd s d = if d then s else { s with st := 0, dcd := false } := by
  cases d <;> simp [updateDcd, hd]

theorem updateDcd_frames (s : St) (d : Bool) : (updateDcd s d).frames = s.frames := by
  simp only [updateDcd, apply_ite St.frames, ite_self]

/-- the fields that neither `doStreamSync` nor `doSyncWait` writes -/
structure Same (a b : St) : Prop where
  si : a.si = b.si
  ci : a.ci = b.ci
  fi : a.fi = b.fi
  frames : a.frames = b.frames
  dcd : a.dcd = b.dcd
  ncr : a.ncr = b.ncr
  cost : a.cost = b.cost

theorem doStreamSync_spec (s : St) (e : Ev) (he : e.eotTrig = false) :
    Same (doStreamSync s e) s ∧ (doStreamSync s e).sc = s.sc + 1 ∧
    ((doStreamSync s e).st = s.st ∧ (doStreamSync s e).msc = s.msc ∧ s.sc + 1 ≤ 86 ∨
     (doStreamSync s e).st = 5 ∧ 78 ≤ s.sc + 1 ∧ e.lsfUpd < 0 ∧
       ((doStreamSync s e).msc = 0 ∧ s.cost < 80 ∨ (doStreamSync s e).msc = s.msc + 1 ∧ s.msc < 10) ∨
     (doStreamSync s e).st = 6 ∧ 86 < s.sc + 1 ∧ (doStreamSync s e).msc = s.msc + 1 ∧ s.msc < 10 ∨
     (doStreamSync s e).st = 0) := by
  refine ⟨?_, ?_⟩
  · constructor <;>
      simp only [doStreamSync, apply_ite St.si, apply_ite St.ci, apply_ite St.fi, apply_ite St.frames, apply_ite St.dcd, apply_ite St.ncr,
        apply_ite St.cost, ite_self]
  · simp only [doStreamSync, gen_consts, he]
    grind

theorem doSyncWait_spec (s : St) :
    Same (doSyncWait s) s ∧ (doSyncWait s).msc = s.msc ∧
    ((doSyncWait s).st = s.st ∧ (doSyncWait s).sc = s.sc + 1 ∧ s.sc < 86 ∨ (doSyncWait s).st = 6 ∧ 86 ≤ s.sc) := by
  refine ⟨?_, ?_⟩
  · constructor <;>
      simp only [doSyncWait, apply_ite St.si, apply_ite St.ci, apply_ite St.fi, apply_ite St.frames, apply_ite St.dcd, apply_ite St.ncr,
        apply_ite St.cost, ite_self]
  · simp only [doSyncWait, gen_consts]
    grind

theorem doFrame_idle (s : St) (e : Ev) (k : Nat) (hci : s.ci = (s.si + k) % 10) (hk : k % 5 ≠ 0) : doFrame s e = s := by
  have : absDiff s.si s.ci ≠ 5 ∧ s.ci ≠ s.si := by rw [hci]; unfold absDiff; split <;> omega
  simp [doFrame, this]

theorem doFrame_symbol (s : St) (e : Ev) (heq : s.ci = s.si) (hf : s.fi + 2 ≠ 368) :
    doFrame s e = { s with fi := s.fi + 2 } := by
  simp [doFrame, heq, hf, absDiff]

theorem doFrame_spec (s : St) (e : Ev) :
    (doFrame s e).dcd = s.dcd ∧ (doFrame s e).msc = s.msc ∧
    ((doFrame s e).st = s.st ∧ (doFrame s e).frames = s.frames ∧ (doFrame s e).cost = s.cost ∧
       ((doFrame s e).fi = s.fi ∨ (doFrame s e).fi = s.fi + 2 ∧ s.fi + 2 ≠ 368) ∨
     s.fi = 366 ∧ (doFrame s e).fi = 0 ∧ (doFrame s e).frames = s.frames + 1 ∧ (doFrame s e).cost = e.cost ∧
       ((doFrame s e).st = 2 ∨ e.decState ≠ 0 ∧ e.decState ≠ 1 ∧ ((doFrame s e).st = 3 ∨ (doFrame s e).st = 4))) := by
  simp only [doFrame]
  grind

theorem dispatch_stream {m : St} (e : Ev) (h : m.st = 2) : dispatch m e = doStreamSync m e := by simp only [dispatch, h]
theorem dispatch_wait {m : St} (e : Ev) (h : m.st = 5) : dispatch m e = doSyncWait m := by simp only [dispatch, h]
theorem dispatch_frame {m : St} (e : Ev) (h : m.st = 6) : dispatch m e = doFrame m e := by simp only [dispatch, h]

theorem dispatch_keeps (m : St) (e : Ev) :
    (dispatch m e).dcd = m.dcd ∧ (m.st ≠ 6 → (dispatch m e).fi = m.fi ∧ (dispatch m e).frames = m.frames) := by
  unfold dispatch
  split <;>
    simp only [doUnlocked, doLsfSync, doStreamSync, doPacketSync, doSyncWait, doFrame, apply_ite St.dcd, apply_ite St.fi, apply_ite St.frames,
      ite_self, and_self, implies_true, ne_eq, not_true_eq_false, false_implies, *]

theorem step_off (s : St) (e : Ev) (hd : s.dcd = false) : step s e = tick s ∨ step s e = { updateDcd (tick s) e.det with cnt := 0 } := by
  simp only [step, show (tick s).dcd = false from hd, if_true, setCnt0]
  split <;> simp

theorem step_on (s : St) (e : Ev) (hd : s.dcd = true) :
    step s e = dispatch (advance (tick s)) e ∨ step s e = { updateDcd (dispatch (advance (tick s)) e) e.det with cnt := 0 } := by
  simp only [step, show (tick s).dcd = true from hd, Bool.true_eq_false, if_false, setCnt0]
  split <;> simp

/-- `hon`: the poll does not drop carrier detect.  `c` is the block counter `count_`, which no handler reads. -/
theorem step_dcd_on (s : St) (e : Ev) (hd : s.dcd = true) (hon : e.det = true ∨ (step s e).st ≠ 0) :
    ∃ m, Advanced s m ∧ ∃ c, step s e = { dispatch m e with cnt := c } := by
  refine ⟨advance (tick s), advance_tick s, ?_⟩
  rcases step_on s e hd with h | h
  · -- eta for `St` by hand: left to unification it costs twenty times as much (it unfolds `dispatch` first)
    exact ⟨(dispatch (advance (tick s)) e).cnt, h.trans (by cases dispatch (advance (tick s)) e; rfl)⟩
  · rw [updateDcd_on (by rw [(dispatch_keeps _ e).1, (advance_tick s).dcd, hd])] at h
    cases hdet : e.det <;> simp only [hdet, Bool.false_eq_true, if_false, if_true] at h
    · rw [h, hdet] at hon; exact absurd rfl (hon.resolve_left Bool.false_ne_true)
    · exact ⟨0, h⟩

def FInv (s : St) : Prop :=
  s.fi % 2 = 0 ∧ s.fi < 368 ∧ (s.dcd = false → s.st = 0) ∧ (s.fi ≠ 0 → s.st = 6 ∨ (s.st = 0 ∧ s.dcd = false))

/-- the part of a state the framer invariant talks about -/
def Core (s : St) : Nat × Nat × Bool := (s.fi, s.st, s.dcd)

theorem finv_of_core {s t : St} (h : FInv s) (hc : t.fi = s.fi ∧ t.st = s.st ∧ t.dcd = s.dcd) : FInv t := by
  obtain ⟨hfi, hst, hdcd⟩ := hc
  unfold FInv at *; rw [hfi, hst, hdcd]; exact h

theorem updateDcd_finv {s : St} (d : Bool) (h : FInv s) : FInv (updateDcd s d) := by
  obtain ⟨h1, h2, h3, h4⟩ := h
  simp only [updateDcd, FInv]
  split
  · split <;> simp_all
  · split <;> simp_all

theorem dispatch_finv {m : St} (e : Ev) (hd : m.dcd = true) (h : FInv m) : FInv (dispatch m e) := by
  obtain ⟨hk, hfi⟩ := dispatch_keeps m e
  by_cases h6 : m.st = 6
  · obtain ⟨h1, h2, -, -⟩ := h
    obtain ⟨c1, -, c⟩ := doFrame_spec m e
    rw [dispatch_frame e h6]
    exact ⟨by omega, by omega, by simp [c1, hd], by omega⟩
  · -- outside FRAME the framer is empty and stays so
    obtain ⟨-, -, -, hfr⟩ := h
    have hf : m.fi = 0 := Decidable.by_contra fun hf => (hfr hf).elim h6 (fun h0 => by simp [hd] at h0)
    simp [FInv, (hfi h6).1, hf, hk, hd]

theorem step_finv (s : St) (e : Ev) (h : FInv s) : FInv (step s e) := by
  have ht : FInv (tick s) := finv_of_core h ⟨rfl, rfl, rfl⟩
  cases hd : s.dcd
  · rcases step_off s e hd with hs | hs <;> rw [hs]
    · exact ht
    · exact finv_of_core (updateDcd_finv e.det ht) ⟨rfl, rfl, rfl⟩
  · have a := advance_tick s
    have hm := dispatch_finv e (a.dcd.trans hd) (finv_of_core h ⟨a.fi, a.st, a.dcd⟩)
    rcases step_on s e hd with hs | hs <;> rw [hs]
    · exact hm
    · exact finv_of_core (updateDcd_finv e.det hm) ⟨rfl, rfl, rfl⟩

/-- **framer invariant, every reachable state**: whatever the signal does, the framer fill index is even and below 368, and it is
    non-zero only while a frame is being collected (state FRAME) or after carrier loss — in which case carrier detect resets it before
    the next frame starts.  So each 368-soft-bit frame handed to the decoder is 184 consecutive symbols of one FRAME episode. -/
theorem run_finv (es : List Ev) : FInv (run init es) :=
  List.foldlRecOn es step (by simp [FInv, init]) fun s h e _ => step_finv s e h

/-- **a frame is handed to the decoder only by the 184th symbol of a FRAME episode** (framer at 366 of 368 soft bits), and that
    step leaves the framer empty -/
theorem frame_delivery (s : St) (e : Ev) (h : (step s e).frames ≠ s.frames) :
    s.dcd = true ∧ s.st = 6 ∧ s.fi = 366 ∧ (step s e).frames = s.frames + 1 ∧ (step s e).fi = 0 := by
  cases hd : s.dcd
  · -- no carrier: only the poll runs, and it keeps the frame count
    rcases step_off s e hd with hs | hs <;> rw [hs] at h
    · exact absurd rfl h
    · exact absurd (updateDcd_frames (tick s) e.det) h
  · have a := advance_tick s
    obtain ⟨hk, hfi⟩ := dispatch_keeps (advance (tick s)) e
    -- the poll keeps framer and frame count: with carrier detect asserted it is `dcd_off()` or nothing
    have hs : (step s e).frames = (dispatch (advance (tick s)) e).frames ∧ (step s e).fi = (dispatch (advance (tick s)) e).fi := by
      rcases step_on s e hd with hs | hs <;> rw [hs]
      · exact ⟨rfl, rfl⟩
      · rw [updateDcd_on (by rw [hk, a.dcd, hd])]; split <;> exact ⟨rfl, rfl⟩
    rw [hs.1] at h ⊢
    rw [hs.2]
    by_cases h6 : (advance (tick s)).st = 6
    · rw [dispatch_frame e h6] at h ⊢
      obtain ⟨-, -, hcase⟩ := doFrame_spec (advance (tick s)) e
      rcases hcase with ⟨-, c, -⟩ | ⟨c1, c2, c3, -⟩
      · exact absurd (c.trans a.frames) h
      · exact ⟨rfl, a.st.symm.trans h6, a.fi.symm.trans c1, by rw [c3, a.frames], c2⟩
    · exact absurd ((hfi h6).2.trans a.frames) h

theorem run_take_succ (s : St) (es : List Ev) (k : Nat) (hk : k < es.length) :
    run s (es.take (k + 1)) = step (run s (es.take k)) es[k] := by
  simp only [run, List.take_add_one, List.foldl_append, List.getElem?_eq_getElem hk, Option.toList_some, List.foldl_cons, List.foldl_nil]

theorem run_while (P : Nat → St → Prop) (Q : Ev → Prop) (n : Nat)
    (hstep : ∀ k s e, k < n → P k s → Q e → (step s e).st ≠ 0 → P (k + 1) (step s e))
    (s0 : St) (es : List Ev) (h0 : P 0 s0) (hq : ∀ e ∈ es, Q e) (hn : n ≤ es.length)
    (hnz : ∀ k, k ≤ n → (run s0 (es.take k)).st ≠ 0) (k : Nat) (hk : k ≤ n) : P k (run s0 (es.take k)) := by
  induction k with
  | zero => exact h0
  | succ k ih =>
    have hk' : k < es.length := by omega
    have hz := hnz (k + 1) hk
    rw [run_take_succ s0 es k hk'] at hz ⊢
    exact hstep k _ _ (by omega) (ih (by omega)) (hq _ (List.getElem_mem hk')) hz

/-- events of a sample in which the end-of-transmission correlator does not fire and carrier detect stays asserted -/
def Quiet (e : Ev) : Prop := e.eotTrig = false ∧ e.det = true

/-- state `k` samples after a frame was completed at sample index `si0` with `fr0` frames delivered (k ≤ 89; `k = 0` is that sample) -/
def Mid (si0 fr0 k : Nat) (t : St) : Prop :=
  t.si = si0 ∧ t.ci = (si0 + k) % 10 ∧ t.fi = 0 ∧ t.frames = fr0 ∧ t.dcd = true ∧ t.ncr = false ∧
  ((k ≤ 86 ∧ t.sc = k ∧ (t.st = 2 ∨ (t.st = 5 ∧ 78 ≤ k))) ∨ (k = 87 ∧ (t.st = 6 ∨ (t.st = 5 ∧ t.sc = 87))) ∨ (88 ≤ k ∧ t.st = 6))

theorem mid_step {si0 fr0 k : Nat} {t : St} {e : Ev} (hm : Mid si0 fr0 k t) (hk : k ≤ 88) (hq : Quiet e)
    (hnz : (step t e).st ≠ 0) : Mid si0 fr0 (k + 1) (step t e) := by
  obtain ⟨h1, h2, h3, h4, h5, h6, h7⟩ := hm
  -- the state `m` that the handler sees is `t` with the correlator one place on
  obtain ⟨m, a, c, hs⟩ := step_dcd_on t e h5 (Or.inl hq.2)
  obtain ⟨asi, ancr⟩ := a.si h6
  have b1 : m.si = si0 := asi.trans h1
  have b2 : m.ci = (si0 + (k + 1)) % 10 := by rw [a.ci, h2]; omega
  rw [← a.st, ← a.sc] at h7
  rw [hs] at hnz ⊢
  have hnz : (dispatch m e).st ≠ 0 := hnz
  -- the handler leaves alone what `Mid` fixes and moves count and state on by one sample: `_` is the last clause of `Mid` at `k + 1`
  suffices key : Same (dispatch m e) m ∧ _ from
    ⟨key.1.si.trans b1, key.1.ci.trans b2, key.1.fi.trans (a.fi.trans h3), key.1.frames.trans (a.frames.trans h4),
      key.1.dcd.trans (a.dcd.trans h5), key.1.ncr.trans ancr, key.2⟩
  have hst : m.st = 2 ∨ m.st = 5 ∨ m.st = 6 := by omega
  rcases hst with hst | hst | hst
  · -- STREAM_SYNC at count `k ≤ 86`: it counts on; from count 78 a sync word sends it to SYNC_WAIT (a late one with count 87);
    -- past count 86 it goes to FRAME
    rw [dispatch_stream e hst] at hnz ⊢
    obtain ⟨hs, hsc, hcase⟩ := doStreamSync_spec m e hq.1
    exact ⟨hs, by grind⟩
  · -- SYNC_WAIT: it counts on to 86, and then (at sample 87, or 88 after a late sync word) hands over to FRAME
    rw [dispatch_wait e hst]
    obtain ⟨hs, -, hcase⟩ := doSyncWait_spec m
    exact ⟨hs, by grind⟩
  · -- FRAME since sample 87 or 88: samples 88 and 89 are neither the sample point nor the half-way point
    rw [dispatch_frame e hst, doFrame_idle m e (k + 1) (by rw [b1, b2]) (by omega)]
    exact ⟨⟨rfl, rfl, rfl, rfl, rfl, rfl, rfl⟩, Or.inr (Or.inr ⟨by omega, hst⟩)⟩

theorem mid_final {si0 fr0 : Nat} {t : St} {e : Ev} (hsi : si0 < 10) (hm : Mid si0 fr0 89 t) (hq : Quiet e) :
    (step t e).fi = 2 ∧ (step t e).st = 6 ∧ (step t e).frames = fr0 ∧ (step t e).si = si0 := by
  obtain ⟨h1, h2, h3, h4, h5, h6, h7⟩ := hm
  obtain ⟨m, a, c, hs⟩ := step_dcd_on t e h5 (Or.inl hq.2)
  obtain ⟨asi, -⟩ := a.si h6
  have hst : m.st = 6 := by rw [a.st]; omega
  rw [hs, dispatch_frame e hst, doFrame_symbol _ e (by rw [a.ci, asi]; omega) (by rw [a.fi]; omega)]
  exact ⟨by show _ + 2 = 2; rw [a.fi, h3], hst, a.frames.trans h4, asi.trans h1⟩

/-- **inter-frame schedule of stream reception, for every signal**: start from the sample at which a stream frame was completed
    (state STREAM_SYNC, counters zero, correlator index = sample index).  Over the next 90 samples — whatever the correlators,
    the Viterbi cost, the clock estimate do, as long as the end-of-transmission correlator does not fire, carrier detect holds and
    the machine does not give up (state UNLOCKED) — no symbol is taken for 89 samples and the 90th sample takes the first symbol of
    the next frame into an empty framer, at the unchanged sample index: exactly the eight symbol periods of the sync word are
    skipped, whether the sync word was found early (count 78..86), late (87) or missed altogether (coasting). -/
theorem steady_next_symbol (s0 : St) (es : List Ev) (hsi : s0.si < 10) (h0 : Mid s0.si s0.frames 0 s0) (hlen : es.length = 90)
    (hq : ∀ e ∈ es, Quiet e) (hnz : ∀ k, k ≤ 89 → (run s0 (es.take k)).st ≠ 0) :
    (∀ k, k ≤ 89 → (run s0 (es.take k)).fi = 0 ∧ (run s0 (es.take k)).frames = s0.frames) ∧
    (run s0 es).fi = 2 ∧ (run s0 es).st = 6 ∧ (run s0 es).frames = s0.frames ∧ (run s0 es).si = s0.si := by
  have hmid := run_while (Mid s0.si s0.frames) Quiet 89 (fun k s e hk hm => mid_step hm (by omega)) s0 es h0 hq (by omega) hnz
  refine ⟨fun k hk => ?_, ?_⟩
  · obtain ⟨-, -, hfi, hfr, -⟩ := hmid k hk
    exact ⟨hfi, hfr⟩
  have hfull : run s0 es = step (run s0 (es.take 89)) es[89] := by
    rw [← run_take_succ s0 es 89 (by omega), List.take_of_length_le (by omega)]
  rw [hfull]
  exact mid_final hsi (hmid 89 (Nat.le_refl _)) (hq _ (List.getElem_mem _))

/-- non-vacuity: a coasting inter-frame gap (no sync word found, low cost) followed by the first symbol -/
example : let s0 : St := { init with st := 2, dcd := true, si := 3, ci := 3, cost := 10, frames := 7 }
    (run s0 (List.replicate 90 {})).fi = 2 ∧ (run s0 (List.replicate 90 {})).frames = 7 ∧ (run s0 (List.replicate 89 {})).fi = 0 := by
  decide +kernel

/-! ## the miss count bounds reception without confirmation

`do_stream_sync` clears the miss count only on a sync word that follows a frame decoded below the cost limit.  While that does
not happen — because no sync word is found (`NoSync`), or because no frame decodes (`Undecodable`) — every frame delivered is
paid for by a miss, and the eleventh miss gives up. -/

/-- events of a sample in which no stream sync word is found, the end-of-transmission correlator does not fire, and a decoded
    frame leaves the decoder in state LSF or STREAM (the demodulator then goes back to STREAM_SYNC) -/
def NoSync (e : Ev) : Prop := 0 ≤ e.lsfUpd ∧ e.eotTrig = false ∧ (e.decState = 0 ∨ e.decState = 1)

/-- events of a sample in which the end-of-transmission correlator does not fire and any frame completed decodes at or above the
    stream cost limit (nothing usable), leaving the decoder in state LSF or STREAM; sync words may or may not be found -/
def Undecodable (e : Ev) : Prop := e.eotTrig = false ∧ 80 ≤ e.cost ∧ (e.decState = 0 ∨ e.decState = 1)

def Locked (f0 m0 : Nat) (s : St) : Prop :=
  s.dcd = true ∧ s.msc ≤ 10 ∧ 80 ≤ s.cost ∧
  ((s.st = 2 ∧ s.frames + m0 ≤ s.msc + f0) ∨ ((s.st = 5 ∨ s.st = 6) ∧ s.frames + m0 + 1 ≤ s.msc + f0))

/-- frames delivered since (f0 frames, m0 misses) are covered by misses, one of them in advance once the sync word of the frame being
    received has been missed or refused; the last frame cost at least `c`.  `Locked` is `Paid 80` (80 = the stream cost limit) -/
def Paid (c f0 m0 : Nat) (s : St) : Prop :=
  s.dcd = true ∧ s.msc ≤ 10 ∧ c ≤ s.cost ∧
  ((s.st = 2 ∧ s.frames + m0 ≤ s.msc + f0) ∨ ((s.st = 5 ∨ s.st = 6) ∧ s.frames + m0 + 1 ≤ s.msc + f0))

/-- events under which `Paid c` is kept: frames cost at least `c`, and sync words are not found unless `c` reaches the cost limit -/
def Unconfirmed (c : Nat) (e : Ev) : Prop :=
  e.eotTrig = false ∧ c ≤ e.cost ∧ (e.decState = 0 ∨ e.decState = 1) ∧ (0 ≤ e.lsfUpd ∨ 80 ≤ c)

theorem Undecodable.unconfirmed {e : Ev} (he : Undecodable e) : Unconfirmed 80 e :=
  ⟨he.1, he.2.1, he.2.2, Or.inr (Nat.le_refl _)⟩

theorem NoSync.unconfirmed {e : Ev} (he : NoSync e) : Unconfirmed 0 e :=
  ⟨he.2.1, Nat.zero_le _, he.2.2, Or.inl he.1⟩

theorem paid_step (c : Nat) {f0 m0 : Nat} {s : St} {e : Ev} (h : Paid c f0 m0 s) (he : Unconfirmed c e) (hnz : (step s e).st ≠ 0) :
    Paid c f0 m0 (step s e) := by
  obtain ⟨m, a, k, hs⟩ := step_dcd_on s e h.1 (Or.inr hnz)
  -- `Paid` reads only fields in which the state `m` that the handler sees agrees with `s`
  rw [Paid, ← a.dcd, ← a.msc, ← a.cost, ← a.st, ← a.frames] at h
  rw [hs] at hnz ⊢
  obtain ⟨hd, hm, hc, hst⟩ := h
  obtain ⟨he, hec, hdec, hl⟩ := he
  show Paid c f0 m0 (dispatch m e)
  have hnz : (dispatch m e).st ≠ 0 := hnz
  have h256 : m.st = 2 ∨ m.st = 5 ∨ m.st = 6 := by omega
  rcases h256 with h2 | h5 | h6
  · -- STREAM_SYNC: the machine counts on, or leaves for SYNC_WAIT or FRAME with the miss that pays for the frame about to be
    -- received.  A sync word cannot clear the miss count instead: none is found, or the last frame cost at least `c ≥ 80`.
    rw [dispatch_stream e h2] at hnz ⊢
    obtain ⟨hs, -, hcase⟩ := doStreamSync_spec m e he
    have hconf : ¬(e.lsfUpd < 0 ∧ m.cost < 80) := by omega
    refine ⟨hs.dcd.trans hd, ?_⟩
    rw [hs.frames, hs.cost]
    grind
  · -- SYNC_WAIT keeps the miss count and stays or goes to FRAME
    rw [dispatch_wait e h5]
    obtain ⟨hs, hmsc, hcase⟩ := doSyncWait_spec m
    refine ⟨hs.dcd.trans hd, ?_⟩
    rw [hs.frames, hs.cost]
    grind
  · -- FRAME: a frame delivered (back to STREAM_SYNC, at cost `e.cost ≥ c`) uses up the miss counted in advance
    rw [dispatch_frame e h6]
    obtain ⟨hdcd, hmsc, hcase⟩ := doFrame_spec m e
    exact ⟨hdcd.trans hd, by grind⟩

theorem paid_bounded (c : Nat) (s0 : St) (es : List Ev) (h0 : s0.st = 2 ∧ s0.dcd = true ∧ s0.msc ≤ 10 ∧ c ≤ s0.cost)
    (he : ∀ e ∈ es, Unconfirmed c e) (hnz : ∀ k, k ≤ es.length → (run s0 (es.take k)).st ≠ 0) :
    (run s0 es).frames + s0.msc ≤ s0.frames + 10 := by
  obtain ⟨hst, hdcd, hmsc, hcost⟩ := h0
  have h := run_while (fun _ => Paid c s0.frames s0.msc) (Unconfirmed c) es.length (fun _ _ _ _ => paid_step c) s0 es
    ⟨hdcd, hmsc, hcost, Or.inl ⟨hst, by omega⟩⟩ he (Nat.le_refl _) hnz es.length (Nat.le_refl _)
  rw [List.take_length] at h
  obtain ⟨-, hm, -, hst⟩ := h
  omega

theorem locked_step (f0 m0 : Nat) (s : St) (e : Ev) (h : Locked f0 m0 s) (he : Undecodable e) (hnz : (step s e).st ≠ 0) : Locked f0 m0 (step s e) :=
  paid_step 80 h he.unconfirmed hnz

/-- **coasting is bounded, for every signal**: start where a stream frame has just been delivered with `m0 ≤ 10` missed sync words on
    the count.  However the correlators, the Viterbi cost and the clock behave, if no stream sync word is found, then as long as the
    demodulator has not given up (state UNLOCKED, after which it searches for sync words afresh) it has delivered at most `10 − m0`
    further frames: it cannot hold the stream state for ever on frames that merely decode below the cost limit. -/
theorem coasting_bounded (s0 : St) (es : List Ev) (h0 : s0.st = 2 ∧ s0.dcd = true ∧ s0.msc ≤ 10) (he : ∀ e ∈ es, NoSync e)
    (hnz : ∀ k, k ≤ es.length → (run s0 (es.take k)).st ≠ 0) :
    (run s0 es).frames + s0.msc ≤ s0.frames + 10 :=
  paid_bounded 0 s0 es ⟨h0.1, h0.2.1, h0.2.2, Nat.zero_le _⟩ (fun e h => (he e h).unconfirmed) hnz

/-- **sync words alone cannot hold the stream state, for every signal**: start where a stream frame has just been delivered undecodable
    (cost at or above the limit) with `m0 ≤ 10` on the miss count.  If every further frame is undecodable too, then — whether or not a
    sync word is found at the expected place in every frame — at most `10 − m0` more frames are delivered before the demodulator gives
    up (state UNLOCKED) and searches again.  A data pattern that resembles the sync word and recurs in every frame therefore cannot keep
    it locked to frames it cannot decode. -/
theorem lock_needs_decodable_frames (s0 : St) (es : List Ev) (h0 : s0.st = 2 ∧ s0.dcd = true ∧ s0.msc ≤ 10 ∧ 80 ≤ s0.cost)
    (he : ∀ e ∈ es, Undecodable e) (hnz : ∀ k, k ≤ es.length → (run s0 (es.take k)).st ≠ 0) :
    (run s0 es).frames + s0.msc ≤ s0.frames + 10 :=
  paid_bounded 80 s0 es h0 (fun e h => (he e h).unconfirmed) hnz

end M17.C03
