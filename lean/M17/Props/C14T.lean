/-
C14 / C01 — the frame builders of `M17Modulator` (model `M17.TxModulator`, packed-byte code path: `conv_encode`, `puncture_bytes`, byte interleaver,
`M17ByteRandomizer`, `assign_bit_index` LICH) produce exactly the frames of the specification encoder `M17.Spec.Tx` — whatever the buffers the code
leaves uninitialised held before.  Third transmitter of C01.
-/
import M17.Model.TxModulator
import M17.Props.C13T

namespace M17.C14T
open M17.Bytes M17.Cond M17.Punct M17.C13T M17.C01F

theorem bytes_ext {a b : List Nat} (hl : a.length = b.length) (ha : AllBytes a) (hb : AllBytes b)
    (h : ∀ i, i < 8 * a.length → getBit a i = getBit b i) : a = b := by
  have : Spec.Tx.bitsOfBytes a = Spec.Tx.bitsOfBytes b :=
    Lists.list_ext_getD false (8 * a.length) (C01F.bitsOfBytes_length a) (by rw [C01F.bitsOfBytes_length, hl])
      fun i hi => by rw [Spec.Tx.bitsOfBytes_getD, Spec.Tx.bitsOfBytes_getD, h i hi]
  rw [← Spec.Tx.bytesOfBits_bitsOfBytes a ha, this, Spec.Tx.bytesOfBits_bitsOfBytes b hb]

theorem interleaveBytes_length (bs : List Nat) : (interleaveBytes bs).length = 46 := by
  unfold interleaveBytes
  rw [C10.K_eq, Cond.foldl_assign_length]
  simp

theorem interleaveBytes_bytes (bs : List Nat) : AllBytes (interleaveBytes bs) :=
  Cond.foldl_assign_bytes (zeros_bytes _)

theorem randBytes_bytes (bs : List Nat) (hb : AllBytes bs) : AllBytes (randBytes bs) := by
  unfold randBytes
  intro x hx
  obtain ⟨⟨b, i⟩, hm, rfl⟩ := List.mem_map.mp hx
  have hb256 : b < 256 := hb b (List.fst_mem_of_mem_zipIdx hm)
  have hdc : Gen.randDC.getD i 0 < 256 :=
    getD_lt_of_allBytes C10.dcBytes i
  show randByte b (Gen.randDC.getD i 0) < 256
  rw [C10.randByte_eq hb256 hdc]
  exact Nat.xor_lt_two_pow (n := 8) hb256 hdc

theorem punctureBytes_facts (p : List Nat) (inb prev : List Nat) (hb : AllBytes prev) :
    (punctureBytes p inb prev).1.length = prev.length ∧ AllBytes (punctureBytes p inb prev).1 := by
  unfold punctureBytes
  exact ⟨Cond.foldl_assign_length, Cond.foldl_assign_bytes hb⟩

theorem packCoded_eq_spec (cbits : List Bool) (h8 : cbits.length % 8 = 0) :
    TxModulator.packCoded (cbits.map toN) = Spec.Tx.bytesOfBits cbits := by
  unfold TxModulator.packCoded Spec.Tx.bytesOfBits
  simp only [List.length_map, ← List.map_drop, ← List.map_take, List.foldl_map, toN_eq]
  rw [Spec.Tx.pack_shiftOr cbits _ (by omega), (by omega : (cbits.length + 7) / 8 = cbits.length / 8)]

theorem convEncode_eq_spec (data : List Nat) :
    TxModulator.convEncode data = Spec.Tx.bytesOfBits (Spec.convEncode (Spec.Tx.bitsOfBytes data)) := by
  unfold TxModulator.convEncode
  rw [C13T.encodeBytes_eq data, packCoded_eq_spec _ (by rw [C01F.convEncode_length, C01F.bitsOfBytes_length]; omega)]

theorem channel_eq (X : List Nat) :
    randBytes (interleaveBytes X) = Spec.Tx.bytesOfBits (Spec.Tx.rnd (Spec.Tx.ileave (Spec.Tx.bitsOfBytes X))) := by
  have il1 := interleaveBytes_length X
  have il2 := interleaveBytes_bytes X
  have r1 : (randBytes (interleaveBytes X)).length = 46 := by rw [C10.randBytes_length, il1]
  apply bytes_ext (by rw [r1, Spec.Tx.bytesOfBits_length, C01F.rnd_ileave_length]) (randBytes_bytes _ il2) (Spec.Tx.bytesOfBits_allBytes _)
  intro i hi
  rw [r1] at hi
  rw [Spec.Tx.getBit_bytesOfBits, C10.randBytes_bit _ il2 i (by rw [il1]; exact hi), C10.interleaveBytes_bit X hi,
    C01F.rnd_getD _ (C01F.ileave_length _) i hi, C01F.ileave_getD _ i hi, Spec.Tx.bitsOfBytes_getD]

/-- the kept bits fill the buffer completely (`hk`), so what it held before does not matter -/
theorem punctureBytes_bits (p : List Nat) (hp : 0 < p.length) (cb : List Bool) (hcb : cb.length % 8 = 0) (prev : List Nat)
    (hk : 8 * prev.length ≤ (C11.keptSeq p 0 cb).length) :
    Spec.Tx.bitsOfBytes (punctureBytes p (Spec.Tx.bytesOfBits cb) prev).1 = Spec.Tx.punct p cb (8 * prev.length) := by
  have hu : unpack (Spec.Tx.bytesOfBits cb) = cb := by rw [Spec.Tx.unpack_eq, Spec.Tx.bitsOfBytes_bytesOfBits cb hcb]
  have hcount : (punctureBytes p (Spec.Tx.bytesOfBits cb) prev).2 = 8 * prev.length := by
    unfold punctureBytes
    simp only [C11.puncture_spec, hu, List.length_take]
    omega
  apply Lists.list_ext_getD false (8 * prev.length)
    (by rw [C01F.bitsOfBytes_length]; unfold punctureBytes; rw [Cond.foldl_assign_length])
    (by rw [C01F.punct_eq p hp, List.length_take]; omega)
  intro i hi
  rw [Spec.Tx.bitsOfBytes_getD, C11.punctureBytes_bit p _ prev i (by rw [hcount]; exact hi), hu, C01F.punct_eq p hp]

theorem lichSegment_bits (lsf : List Nat) (hl : lsf.length = 30) (hb : AllBytes lsf) (n : Nat) (hn : n < 6) (prev : List Nat) (hp : prev.length = 12) :
    Spec.Tx.bitsOfBytes (TxModulator.lichSegment ((lsf.drop (5 * n)).take 5) n prev) = Spec.Tx.lichBits lsf n := by
  unfold TxModulator.lichSegment
  apply Lists.list_ext_getD false 96 (by rw [C01F.bitsOfBytes_length, Cond.foldl_assign_length, hp]) (C01F.lichBits_length _ _)
  intro i hi
  rw [Spec.Tx.bitsOfBytes_getD, Cond.assign_range _ prev 96 (by omega) i (by omega), if_pos hi, C13T.lichSegment_eq_spec lsf hl hb n hn, C13T.getD_map_toI, toI_ne_zero]

theorem address_eq_spec (cs : List Nat) (hv : ∀ c ∈ cs, C17.validChar c = true) (h9 : cs.length ≤ 9) :
    TxModulator.address cs = Spec.Tx.callsign cs :=
  C20P.spec_address_eq cs hv h9

theorem lsfBytes_eq_spec (src dst : List Nat) (hsv : ∀ c ∈ src, C17.validChar c = true) (hs9 : src.length ≤ 9)
    (hdv : ∀ c ∈ dst, C17.validChar c = true) (hd9 : dst.length ≤ 9) :
    TxModulator.lsfBytes (TxModulator.address src) (TxModulator.address dst) =
      Spec.Tx.lsfBytes dst src (Spec.Tx.voiceType 0) (List.replicate 14 0) := by
  unfold TxModulator.lsfBytes Spec.Tx.lsfBytes
  rw [address_eq_spec src hsv hs9, address_eq_spec dst hdv hd9]
  simp only [C13T.crc_bytes_eq]
  rfl

/-- the frame around any 30 link setup bytes is the specification's, whatever the `punctured` array held before: the callsigns only
    matter for `lsfBytes_eq_spec` -/
theorem lsfChannel_eq (lsf : List Nat) (hl : lsf.length = 30) (prev : List Nat) (hp : prev.length = 46) :
    [0x55, 0xF7] ++ TxModulator.lsfChannel lsf prev = Spec.Tx.lsfFrame lsf := by
  have hu : (Spec.Tx.bitsOfBytes lsf).length = 240 := by rw [C01F.bitsOfBytes_length, hl]
  unfold TxModulator.lsfChannel Spec.Tx.lsfFrame Spec.Tx.lsfFrameBits
  rw [convEncode_eq_spec lsf, channel_eq,
    punctureBytes_bits Gen.p1 C01F.p1_pos _ (by rw [C01F.convEncode_length, hu]) prev
      (by rw [C01F.kept_convEncode Gen.p1 _ 488 (by rw [hu]), C11.kept_lsf, hp]; decide),
    hp, C11.gen_p1_eq_spec]
  rfl

/-- **`send_link_setup` emits exactly the specification's link setup frame** (voice stream, CAN 0 — the modulator has no CAN setting), for
    every source and destination over the M17 alphabet (a blank one meaning broadcast), whatever the `punctured` array held before -/
theorem sendLinkSetup_eq_spec (src dst : List Nat) (hsv : ∀ c ∈ src, C17.validChar c = true) (hs9 : src.length ≤ 9)
    (hdv : ∀ c ∈ dst, C17.validChar c = true) (hd9 : dst.length ≤ 9) (prev : List Nat) (hp : prev.length = 46) :
    TxModulator.sendLinkSetup src dst prev = Spec.Tx.lsfFrame (Spec.Tx.lsfBytes dst src (Spec.Tx.voiceType 0) (List.replicate 14 0)) := by
  rw [TxModulator.sendLinkSetup, lsfBytes_eq_spec src dst hsv hs9 hdv hd9, lsfChannel_eq _ (C13T.lsf_len _ _ _) prev hp]

/-- the stream frame is the specification's whatever the two uninitialised buffers held — not even bytes are needed in them -/
theorem streamFrame_eq (lsf : List Nat) (hl : lsf.length = 30) (hb : AllBytes lsf) (n : Nat) (hn : n < 6)
    (fn : Nat) (payload : List Nat) (hpl : payload.length = 16)
    (prevL prevP : List Nat) (hL : prevL.length = 12) (hP : prevP.length = 34) :
    TxModulator.streamFrame lsf n fn payload prevL prevP = Spec.Tx.streamFrame lsf n fn payload := by
  unfold TxModulator.streamFrame TxModulator.sendAudioFrame TxModulator.makePayload Spec.Tx.streamFrame Spec.Tx.streamFrameBits
  rw [Spec.Tx.be16_bytes]
  generalize hdata : [fn / 256 % 256, fn % 256] ++ payload = data
  have hu : (Spec.Tx.bitsOfBytes data).length = 144 := by rw [C01F.bitsOfBytes_length, ← hdata]; simp [hpl]
  rw [convEncode_eq_spec data, channel_eq, Spec.Tx.bitsOfBytes_append, lichSegment_bits lsf hl hb n hn prevL hL,
    punctureBytes_bits Gen.p2 C01F.p2_pos _ (by rw [C01F.convEncode_length, hu]) prevP
      (by rw [C01F.kept_convEncode Gen.p2 _ 296 (by rw [hu]), C11.kept_stream, hP]; decide),
    hP, C11.gen_p2_eq_spec]
  rfl

/-- **every stream frame the modulator sends is the specification's stream frame**, whatever the uninitialised buffers held -/
theorem streamFrame_eq_spec (lsf : List Nat) (hl : lsf.length = 30) (hb : AllBytes lsf) (n : Nat) (hn : n < 6)
    (fn : Nat) (payload : List Nat) (hpl : payload.length = 16) (hp : AllBytes payload)
    (prevL prevP : List Nat) (hL : prevL.length = 12) (hLb : AllBytes prevL) (hP : prevP.length = 34) :
    TxModulator.streamFrame lsf n fn payload prevL prevP = Spec.Tx.streamFrame lsf n fn payload :=
  streamFrame_eq lsf hl hb n hn fn payload hpl prevL prevP hL hP

/-! frames of `M17Modulator` decode bit-exact (C01, third transmitter) -/

theorem modulator_lsf_decodes (lo : Int) (hlo : 1 ≤ lo) (σ : Dec.DState) (cb : Bool) (src dst : List Nat)
    (hsv : ∀ c ∈ src, C17.validChar c = true) (hs1 : 1 ≤ src.length) (hs9 : src.length ≤ 9)
    (hdv : ∀ c ∈ dst, C17.validChar c = true) (hd9 : dst.length ≤ 9) (prev : List Nat) (hp : prev.length = 46)
    (frame : List Int) (hr : SoftImage lo (Spec.Tx.bitsOfBytes ((TxModulator.sendLinkSetup src dst prev).drop 2)) frame) :
    (Dec.step σ .lsf frame cb).calls =
      [⟨.lsf, TxModulator.lsfBytes (TxModulator.address src) (TxModulator.address dst), cleanCost Gen.p1 frame 488⟩] ∧
    (Dec.step σ .lsf frame cb).result = .ok ∧ (Dec.step σ .lsf frame cb).state.mode = .stream := by
  have hb := lsfBytes_eq_spec src dst hsv hs9 hdv hd9
  rw [TxModulator.sendLinkSetup, hb, lsfChannel_eq _ (C13T.lsf_len _ _ _) prev hp, lsfFrame_bits] at hr
  rw [hb]
  obtain ⟨hcalls, hres, hmode, -⟩ :=
    C20P.link_report lo hlo σ cb src dst hsv hs1 hs9 hdv hd9 0 (by decide) (List.replicate 14 0) List.length_replicate (zeros_bytes 14) frame hr
  exact ⟨hcalls, hres, hmode⟩

theorem modulator_stream_decodes (lo : Int) (hlo : 1 ≤ lo) (σ : Dec.DState) (hm : σ.mode = .stream) (cb : Bool)
    (lsf : List Nat) (hl : lsf.length = 30) (hb : AllBytes lsf) (n : Nat) (hn : n < 6)
    (fn : Nat) (hfn : fn < 65536) (payload : List Nat) (hpl : payload.length = 16) (hp : AllBytes payload)
    (prevL prevP : List Nat) (hL : prevL.length = 12) (hLb : AllBytes prevL) (hP : prevP.length = 34)
    (frame : List Int) (hr : SoftImage lo (Spec.Tx.bitsOfBytes ((TxModulator.streamFrame lsf n fn payload prevL prevP).drop 2)) frame) :
    (Dec.step σ .stream frame cb).calls.map (fun c => (c.ftype, c.bytes)) = [(.stream, [fn / 256 % 256, fn % 256] ++ payload)] ∧
    (Dec.step σ .stream frame cb).result = .ok := by
  rw [streamFrame_eq lsf hl hb n hn fn payload hpl prevL prevP hL hP, ← C13T.streamFrame_eq lsf hl hb n hn fn payload] at hr
  exact C13T.m17mod_stream_decodes lo hlo σ hm cb lsf hl hb n hn fn hfn payload hpl hp frame hr

example : TxModulator.sendLinkSetup ("W1AW".toList.map Char.toNat) [] (List.replicate 46 0xAA) =
    Spec.Tx.lsfFrame (Spec.Tx.lsfBytes [] ("W1AW".toList.map Char.toNat) (Spec.Tx.voiceType 0) (List.replicate 14 0)) :=
  sendLinkSetup_eq_spec _ _ (by decide) (by decide) (by simp) (by simp) _ (by simp)

end M17.C14T
