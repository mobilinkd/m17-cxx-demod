/-
C16 — queue blocking and shutdown: a call waits exactly while it cannot proceed; with the default (unbounded)
time-out it never gives up while the queue is open; close() ends every wait, makes puts fail, lets consumers drain,
and a drained closed queue fails gets at once.
-/
import M17.Props.C15

namespace M17.C16
open M17.Q M17.C15

theorem pc_setPc (s : Sys) (t : Nat) (p : Pc) (hl : t < s.pcs.length) : (setPc s t p).pcs.getD t .idle = p := by
  simp [setPc, hl]

theorem pc_putTail (s : Sys) (t v : Nat) (hl : t < s.pcs.length) :
    (putTail s t v).pcs.getD t .idle = .done (decide (s.st = .opn)) none := by
  unfold putTail; split <;> simp_all [setPc]

theorem pc_getTail (s : Sys) (t x : Nat) (xs : List Nat) (hl : t < s.pcs.length) :
    (getTail s t x xs).pcs.getD t .idle = .done true (some x) := by
  simp [getTail, setPc, hl]

/-- **a put starts waiting only when the queue is full and open (and its time-out is not zero); a get only when the
    queue is empty and not closed** -/
theorem blocks_only_when_it_must (s s' : Sys) (t : Nat) (hl : t < s.pcs.length) (hs : step s (.run t) = some s') :
    (∀ v to, s.pcs.getD t .idle = .putStart v to → s'.pcs.getD t .idle = .putWaiting v to →
        s.size = s.cap ∧ s.st = .opn ∧ to ≠ .zero) ∧
    (∀ to, s.pcs.getD t .idle = .getStart to → s'.pcs.getD t .idle = .getWaiting to →
        s.items = [] ∧ s.st ≠ .closed) := by
  unfold step at hs
  constructor
  · intro v to hp hw
    -- `hp` selects the branch of `step` for this pc; each way out of it is a `setPc` or a `putTail`, whose resulting pc is known (here and below)
    simp only [hp] at hs
    grind [pc_setPc, pc_putTail]
  · intro to hp hw
    simp only [hp] at hs
    grind [pc_setPc, pc_getTail]

/-- **forever means forever**: with the default time-out a put returns `false` only if the queue is not open,
    and a get returns `false` only if the queue is closed and empty -/
theorem forever_never_gives_up (s s' : Sys) (t : Nat) (hl : t < s.pcs.length)
    (hs : step s (.run t) = some s') :
    (∀ v b, (s.pcs.getD t .idle = .putStart v .forever ∨ s.pcs.getD t .idle = .putWoken v .forever b) →
        s'.pcs.getD t .idle = .done false none → s.st ≠ .opn) ∧
    (∀ b, (s.pcs.getD t .idle = .getStart .forever ∨ s.pcs.getD t .idle = .getWoken .forever b) →
        s'.pcs.getD t .idle = .done false none → s.st = .closed ∧ s.items = []) := by
  unfold step at hs
  constructor
  · intro v b hp hd
    rcases hp with hp | hp <;> simp only [hp] at hs <;> grind [pc_setPc, pc_putTail]
  · intro b hp hd
    rcases hp with hp | hp <;> simp only [hp] at hs <;> grind [pc_setPc, pc_getTail]

/-- **close ends every wait**: once the queue is not open, a put that is woken returns `false` in its next segment
    instead of waiting again; a get that is woken takes an item if there is one and otherwise returns `false` -/
theorem close_ends_waits (s s' : Sys) (t : Nat) (hl : t < s.pcs.length) (hi : Inv s) (hst : s.st ≠ .opn)
    (hs : step s (.run t) = some s') :
    (∀ v to, s.pcs.getD t .idle = .putWoken v to false → s'.pcs.getD t .idle = .done false none) ∧
    (∀ to, s.pcs.getD t .idle = .getWoken to false →
        (∃ x, s'.pcs.getD t .idle = .done true (some x) ∧ s.items.head? = some x) ∨
        (s.items = [] ∧ s'.pcs.getD t .idle = .done false none)) := by
  -- not open, and CLOSING only while something is queued: an empty queue is CLOSED
  have hc : s.items = [] → s.st = .closed := fun he => by
    obtain ⟨-, -, -, h4⟩ := hi
    cases hh : s.st <;> simp_all
  unfold step at hs
  constructor
  · intro v to hp
    simp only [hp] at hs
    grind [pc_setPc, pc_putTail]
  · intro to hp
    simp only [hp] at hs
    grind [pc_setPc, pc_getTail]

/-- **what was accepted before close is still delivered, and the get that takes the last item closes the queue** -/
theorem close_drains (s s' : Sys) (t : Nat) (x : Nat) (xs : List Nat) (to : Timeout) (hl : t < s.pcs.length)
    (hp : s.pcs.getD t .idle = .getStart to) (hitems : s.items = x :: xs) (hs : step s (.run t) = some s') :
    s'.pcs.getD t .idle = .done true (some x) ∧ s'.items = xs ∧
    (s.st = .closing → xs = [] → s'.st = .closed) ∧ (s.st = .closing → xs ≠ [] → s'.st = .closing) := by
  unfold step at hs
  simp only [hp, hitems] at hs
  cases hs
  refine ⟨pc_getTail s t x xs hl, by simp [getTail, setPc], ?_, ?_⟩ <;> intro h1 h2 <;> simp [getTail, setPc, h1, h2]

/-- **a get on a drained, closed queue fails in its first segment, without waiting** -/
theorem get_on_closed_is_immediate (s s' : Sys) (t : Nat) (to : Timeout) (hl : t < s.pcs.length)
    (hp : s.pcs.getD t .idle = .getStart to) (hc : s.st = .closed) (he : s.items = [])
    (hs : step s (.run t) = some s') : s'.pcs.getD t .idle = .done false none := by
  unfold step at hs
  simp only [hp, he, hc, if_true, Option.some.injEq] at hs
  rw [← hs, pc_setPc s t _ hl]

/-- a wake-up is always possible for a waiting thread (notification or spurious), and a time-out wake-up exactly
    when the call has a deadline -/
theorem wake_enabled (s : Sys) (t : Nat) (v : Nat) (to : Timeout) :
    (s.pcs.getD t .idle = .putWaiting v to → (step s (.wake t false)).isSome ∧
        ((step s (.wake t true)).isSome ↔ to ≠ .forever)) ∧
    (s.pcs.getD t .idle = .getWaiting to → (step s (.wake t false)).isSome ∧
        ((step s (.wake t true)).isSome ↔ to ≠ .forever)) := by
  constructor <;> intro h <;> unfold step <;> simp only [h] <;> cases to <;> simp

example : (runAll (initSys 1 [.putStart 7 .forever, .putStart 8 .forever, .getStart .forever])
    [.run 0, .run 1, .run 2, .wake 1 false, .run 1]).map (fun s => (s.items, s.getLog, s.pcs)) =
    some ([8], [7], [.done true none, .done true none, .done true (some 7)]) := by decide

end M17.C16
