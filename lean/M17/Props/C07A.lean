/-
C07 — AX.25 parsing in m17-demod's packet handler forms no out-of-bounds access, for every frame content and length.
-/
import M17.Model.Ax25

namespace M17.C07A
open M17.Ax25

/-- every access `(offset, length)` lies inside a frame of `n` bytes -/
def InBounds (n : Nat) (acc : List (Nat × Nat)) : Prop := ∀ a ∈ acc, a.1 + a.2 ≤ n

theorem inBounds_nil (n : Nat) : InBounds n [] := fun _ h => nomatch h
theorem inBounds_cons {n : Nat} {a : Nat × Nat} {l : List (Nat × Nat)} : InBounds n (a :: l) ↔ a.1 + a.2 ≤ n ∧ InBounds n l :=
  List.forall_mem_cons
theorem inBounds_append {n : Nat} {l m : List (Nat × Nat)} : InBounds n (l ++ m) ↔ InBounds n l ∧ InBounds n m :=
  List.forall_mem_append

/-- the repeater fields lie inside the frame, and behind them the index is still at most `length - 1` -/
theorem repeaters_in_bounds (f : List Nat) : ∀ (fuel index : Nat),
    InBounds f.length (repeaters f fuel index).2 ∧ 7 * (repeaters f fuel index).1.length + index ≤ max index (f.length - 1) := by
  intro fuel
  induction fuel with
  | zero => intro index; exact ⟨inBounds_nil _, by simp only [repeaters, List.length_nil]; omega⟩
  | succ fuel ih =>
    intro index
    obtain ⟨i1, i2⟩ := ih (index + 7)
    unfold repeaters
    simp only
    split
    · split
      · exact ⟨inBounds_cons.mpr ⟨by simp only; omega, i1⟩, by simp only [List.length_cons]; omega⟩
      · exact ⟨inBounds_cons.mpr ⟨by simp only; omega, inBounds_nil _⟩, by simp only [List.length_cons, List.length_nil]; omega⟩
    · exact ⟨inBounds_nil _, by simp only [List.length_nil]; omega⟩

/-- **no out-of-bounds access in `ax25_frame::parse`**: for every frame (any length, any content) every `substr`, every `operator[]` and the
    final iterator range lie inside the frame -/
theorem parse_in_bounds (f : List Nat) (p : Parsed) (h : parse f = some p) : InBounds f.length p.accesses := by
  unfold parse at h
  by_cases hn : f.length < 17
  · simp [hn] at h
  · simp only [hn, if_false] at h
    generalize hrp : (if (fixup ((f.drop 7).take 7)).1 = true then repeaters f f.length 14 else ([], [])) = rp at h
    obtain ⟨hb, hi⟩ : InBounds f.length rp.2 ∧ 7 * rp.1.length + 14 ≤ max 14 (f.length - 1) := by
      rw [← hrp]; split
      · exact repeaters_in_bounds f f.length 14
      · exact ⟨inBounds_nil _, by simp only [List.length_nil]; omega⟩
    -- three outcomes (too short for a control field, unnumbered frame with PID, any other frame), each with its accesses written out
    split at h
    case' isFalse => split at h
    all_goals
      cases h
      simp only [inBounds_append, inBounds_cons, hb, inBounds_nil, and_true]; omega

/-! the shortest frame whose control field is read: two addresses, control 0x03 (UI), PID 0xF0, one info byte, two FCS bytes -/
example : (parse ([130, 160, 164, 166, 64, 64, 96, 156, 96, 134, 130, 152, 152, 97, 3, 240, 0, 0, 0])).map (fun p => (p.ftype, p.pid, p.info.length)) =
    some (3, some 240, 1) := by decide

end M17.C07A
