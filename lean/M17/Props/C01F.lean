/-
C01 at frame level: the Viterbi core of `C01` composed with the other stages into statements about the whole frame decoder model
`Dec.step`, fed with the soft image of a specification-encoded frame (`Spec.Tx.*FrameBits`):

  receive side (model of the code)                     transmit side (written from the specification)
  randSoft → deinterleaveSoft → depuncture → Viterbi    convEncode → punct → ileave → rnd
  → pack → CRC / Golay / LICH unpack                    golay24, lichBits, crc

for every payload, every decoder state, and every per-position soft magnitude 1..7 with the correct sign.
-/
import M17.Props.C01
import M17.Props.C05
import M17.Props.C10
import M17.Lemmas.Tx

namespace M17.C01F
open M17.Vit M17.C01 M17.Cond M17.Punct M17.Dec

def Carries (lo : Int) (b : Bool) (r : Int) : Prop := if b then lo ≤ r ∧ r ≤ 7 else -7 ≤ r ∧ r ≤ -lo

/-- `lo = 1`: everything the 4-bit soft demapper can emit for a correct decision; `lo = 7`: full confidence -/
def SoftImage (lo : Int) (bits : List Bool) (r : List Int) : Prop :=
  r.length = bits.length ∧ ∀ i, i < bits.length → Carries lo (bits.getD i false) (r.getD i 0)

/-- the specification's 46 randomizer bytes, as bits, are the bits the code derives its ±1 table from -/
theorem dc_bridge : Spec.Tx.bitsOfBytes Spec.randDC = (List.range 368).map dcBit := by decide +kernel

theorem rnd_getD (bits : List Bool) (h : bits.length = 368) (i : Nat) (hi : i < 368) :
    (Spec.Tx.rnd bits).getD i false = (bits.getD i false != dcBit i) := by
  unfold Spec.Tx.rnd
  rw [dc_bridge]
  simp [List.getD_eq_getElem?_getD, h, hi]

theorem rnd_length (bits : List Bool) (h : bits.length = 368) : (Spec.Tx.rnd bits).length = 368 := by
  unfold Spec.Tx.rnd; rw [dc_bridge]; simp [h]

theorem randSoft_getD (r : List Int) (i : Nat) (hi : i < r.length) :
    (randSoft r).getD i 0 = narrow8 (r.getD i 0 * dcSign i) := by
  unfold randSoft
  simp [List.getD_eq_getElem?_getD, hi]

theorem randSoft_length (r : List Int) : (randSoft r).length = r.length := by unfold randSoft; simp

theorem rand_image (lo : Int) (hlo : 1 ≤ lo) {bits : List Bool} {r : List Int} (h : bits.length = 368)
    (hr : SoftImage lo (Spec.Tx.rnd bits) r) : SoftImage lo bits (randSoft r) := by
  obtain ⟨hl, hp⟩ := hr
  rw [rnd_length bits h] at hl hp
  refine ⟨by rw [randSoft_length, hl, h], fun i hi => ?_⟩
  rw [h] at hi
  have := hp i hi
  rw [rnd_getD bits h i hi] at this
  rw [randSoft_getD r i (by omega)]
  revert this
  unfold Carries dcSign narrow8
  cases bits.getD i false <;> cases dcBit i <;> simp <;> omega

theorem ileave_eq_scatter (bits : List Bool) : Spec.Tx.ileave bits = scatter Spec.ileaveIndex 368 false bits := rfl

theorem spec_index_perm : Bij Spec.ileaveIndex C10.invIndex 368 := funext C10.index_eq_spec ▸ C10.index_perm

theorem ileave_getD (bits : List Bool) (p : Nat) (hp : p < 368) :
    (Spec.Tx.ileave bits).getD p false = bits.getD (C10.invIndex p) false :=
  scatter_getD spec_index_perm false bits p hp

theorem ileave_length (bits : List Bool) : (Spec.Tx.ileave bits).length = 368 := by
  rw [ileave_eq_scatter]; exact scatter_length

-- `Spec.Tx.ileave` is a fold over 368 positions: left reducible, the closing `rwa` opens it while matching and runs out of recursion depth
attribute [local irreducible] Spec.Tx.ileave in
theorem deinterleave_image (lo : Int) {bits : List Bool} {r : List Int} (h : bits.length = 368)
    (hr : SoftImage lo (Spec.Tx.ileave bits) r) : SoftImage lo bits (deinterleaveSoft r) := by
  obtain ⟨hl, hp⟩ := hr
  rw [ileave_length] at hl hp
  unfold deinterleaveSoft
  rw [C10.K_eq]
  refine ⟨by rw [gather_length, h], fun i hi => ?_⟩
  rw [h] at hi
  obtain ⟨hb1, hb2⟩ := spec_index_perm.1 i hi
  have h2 := hp _ hb1
  rwa [ileave_getD bits _ hb1, hb2, ← C10.index_eq_spec,
    ← gather_getD (π := index) (d := 0) (xs := r) hi] at h2

/-- what `Dec.step` computes first (`deinterleaveSoft (randSoft frame)`) is a clean soft image of the
    368 bits that went into the specification's interleaver -/
theorem condition_image (lo : Int) (hlo : 1 ≤ lo) (bits : List Bool) (frame : List Int) (h : bits.length = 368)
    (hr : SoftImage lo (Spec.Tx.rnd (Spec.Tx.ileave bits)) frame) :
    SoftImage lo bits (deinterleaveSoft (randSoft frame)) :=
  deinterleave_image lo h (rand_image lo hlo (ileave_length bits) hr)

theorem filter_eq_keptSeq (p : List Nat) (hp : 0 < p.length) (xs : List α) : ∀ (k : Nat),
    (((xs.zipIdx k).filter fun (x : α × Nat) => p.getD (x.2 % p.length) 0 != 0).map Prod.fst) = C11.keptSeq p (k % p.length) xs := by
  induction xs with
  | nil => intro k; simp [C11.keptSeq]
  | cons x xs ih =>
    intro k
    simp only [List.zipIdx_cons, C11.keptSeq, List.filter_cons]
    have hn : nextP p (k % p.length) = (k + 1) % p.length := by
      rw [← Nat.mod_add_mod]; exact C11.pIdx_eq_mod p _ 1 (Nat.mod_lt _ hp)
    rw [hn]
    unfold pAt
    split
    · simp only [List.map_cons, ih (k + 1)]
    · exact ih (k + 1)

theorem punct_eq (p : List Nat) (hp : 0 < p.length) (bits : List Bool) (n : Nat) :
    Spec.Tx.punct p bits n = (C11.keptSeq p 0 bits).take n := by
  unfold Spec.Tx.punct
  have := filter_eq_keptSeq p hp bits 0
  rw [Nat.zero_mod] at this
  rw [← this]

/-- coded bit `i` is received: kept by the matrix and inside the frame -/
def recv (p : List Nat) (out i : Nat) : Bool := pAt p (C11.pIdx p 0 i) && decide (C11.rank p 0 i < out)

theorem carries_okSign (lo : Int) (hlo : 1 ≤ lo) {b : Bool} {x : Int} (h : Carries lo b x) : okSign 7 b x ∧ x ≠ 0 := by
  unfold Carries at h; unfold okSign
  cases b <;> simp at h ⊢ <;> omega

theorem depunct_okSign (lo : Int) (hlo : 1 ≤ lo) {p : List Nat} {c : List Bool} {r : List Int} {out n : Nat} (hn : c.length = n)
    (hlen : r.length = out) (hr : SoftImage lo ((C11.keptSeq p 0 c).take out) r) (i : Nat) (hi : i < n) :
    okSign 7 (c.getD i false) ((depunctureGo p 0 r n).getD i 0) ∧
    (recv p out i = true → (depunctureGo p 0 r n).getD i 0 ≠ 0) := by
  rw [C11.depuncture_spec p n 0 r i hi]
  unfold recv
  by_cases hk : pAt p (C11.pIdx p 0 i) = true
  · by_cases h : C11.rank p 0 i < out
    · have h1 := hr.2 (C11.rank p 0 i) (by rw [← hr.1]; omega)
      have h2 := C11.keptSeq_rank p false c 0 i (by omega) hk
      rw [List.getD_eq_getElem?_getD, List.getElem?_take, if_pos h, ← List.getD_eq_getElem?_getD, h2] at h1
      simp only [hk, if_true]
      exact ⟨(carries_okSign lo hlo h1).1, fun _ => (carries_okSign lo hlo h1).2⟩
    · simp [hk, h, okSign, List.getD_eq_getElem?_getD, List.getElem?_eq_none (by omega : r.length ≤ C11.rank p 0 i)]
  · simp [hk, okSign]

def noDouble (p : List Nat) (n out : Nat) : Bool :=
  (List.range (n / 2)).all fun t => recv p out (2 * t) || recv p out (2 * t + 1)

/-- the same predicate as `C01.noDoubleErasure`, which reads it off the list of kept positions -/
theorem noDouble_eq (p : List Nat) (n out : Nat) : noDouble p n out = noDoubleErasure p n out := by
  rw [noDoubleErasure_eq, C11.recvFlags_eq, C11.pairUp_map_range, List.all_map]; rfl

/-- LSF (P1, 488 → 368), stream (P2, 296 → 272), packet (P3, 420 → 368), BERT (P2, 402 → 368; the 369th kept bit is
    not transmitted) -/
theorem geometries_noDouble :
    noDouble Gen.p1 488 368 = true ∧ noDouble Gen.p2 296 272 = true ∧
    noDouble Gen.p3 420 368 = true ∧ noDouble Gen.p2 402 368 = true := by
  simp only [noDouble_eq]; exact geometries_no_double_erasure

theorem consistent_pairs {l : Nat} : ∀ {d : List Int} {c : List Bool}, d.length = c.length →
    (∀ i, i < d.length → okSign l (c.getD i false) (d.getD i 0)) →
    (∀ t, 2 * t + 1 < d.length → ¬ (d.getD (2 * t) 0 = 0 ∧ d.getD (2 * t + 1) 0 = 0)) →
    Consistent l (pairs d) (C11.pairUp c)
  | [], [], _, _, _ | [_], [_], _, _, _ => trivial
  | a :: b :: d, x :: y :: c, hl, h, hz =>
    ⟨h 0 (by simp), h 1 (by simp), hz 0 (by simp),
      consistent_pairs (by simpa using hl) (fun i hi => h (i + 2) (by simpa using hi))
        (fun t ht => hz (t + 1) (by simp only [List.length_cons] at ht ⊢; omega))⟩

theorem convFrom_length : ∀ (u : List Bool) (s : Nat), (Spec.convFrom s u).length = u.length
  | [], _ => rfl
  | b :: u, s => by simp only [Spec.convFrom, List.length_cons, convFrom_length u]

/-- what `depuncture` makes of a clean soft image of a punctured code word meets the hypothesis of `C01.viterbi_clean_pairs` -/
theorem depunct_consistent (lo : Int) (hlo : 1 ≤ lo) (p : List Nat) (v : List Bool) (r : List Int) (out n : Nat)
    (hn : n = 2 * v.length) (hlen : r.length = out) (hnd : noDouble p n out = true)
    (hr : SoftImage lo ((C11.keptSeq p 0 ((Spec.convFrom 0 v).flatMap fun p => [p.1, p.2])).take out) r) :
    Consistent 7 (pairs (depunctureGo p 0 r n)) (Spec.convFrom 0 v) := by
  have hcl : ((Spec.convFrom 0 v).flatMap fun p => [p.1, p.2]).length = n := by
    rw [Lists.flat_length, convFrom_length, hn]
  have hd := C11.depunctureGo_length p n 0 r
  have key := depunct_okSign lo hlo hcl hlen hr
  rw [← C11.pairUp_flat (Spec.convFrom 0 v)]
  refine consistent_pairs (by rw [hd, hcl]) (fun i hi => (key i (hd ▸ hi)).1) fun t ht hz => ?_
  have hnd' := Lists.all_range hnd (i := t) (by omega)
  rw [Bool.or_eq_true] at hnd'
  exact hnd'.elim (fun h => (key (2 * t) (by omega)).2 h hz.1) (fun h => (key (2 * t + 1) (hd ▸ ht)).2 h hz.2)

/-- the slack of the received vector: Σ (7 − |r|) over the received (non-erased) positions of the de-punctured block -/
def slack (p : List Nat) (r : List Int) (n : Nat) : Nat := baseCost 7 (pairs (depunctureGo p 0 r n))

/-- **FEC chain, clean frame**: for every puncture matrix and geometry that never erases a whole trellis step, every message `u`
    and every clean soft image `r` of the punctured specification code word, the decoder's chain (`depuncture` →
    `Viterbi::decode` → `to_byte_array`) returns exactly `u`, packed MSB-first, with cost `round(slack/7)` -/
theorem fec_clean (lo : Int) (hlo : 1 ≤ lo) (p : List Nat) (hp : 0 < p.length) (u : List Bool) (r : List Int) (out n : Nat)
    (hn : n = 2 * (u.length + 4)) (hlen : r.length = out) (hnd : noDouble p n out = true)
    (hsmall : 318 * (u.length + 4) < 2 ^ 30 - 1)
    (hr : SoftImage lo (Spec.Tx.punct p (Spec.convEncode u) out) r) :
    fec p r n u.length = (roundDiv (slack p r n) 7, u, Bytes.pack u) := by
  unfold fec slack
  rw [punct_eq p hp] at hr
  unfold Spec.convEncode at hr
  have hc := depunct_consistent lo hlo p (u ++ [false, false, false, false]) r out n (by simpa using hn) hlen hnd hr
  have hv := viterbi_clean_pairs 4 (by decide) (depunctureGo p 0 r n) _ u.length hc
    (by rw [C02.pairs_length, C11.depunctureGo_length, hn]; omega)
  simp only [vitLLR, hv, List.take_left']
  rfl

theorem baseCost_eq_sum : ∀ (d : List Int), d.length % 2 = 0 → baseCost 7 (pairs d) = (d.map (base1 7)).sum
  | [], _ => rfl
  | [_], h => by simp at h
  | a :: b :: rest, h => by
    have ih := baseCost_eq_sum rest (by simp only [List.length_cons] at h; omega)
    unfold baseCost at ih ⊢
    simp only [pairs, List.map_cons, List.sum_cons, ih]
    omega

theorem slack_eq_sum (p : List Nat) (xs : List Int) (n : Nat) (hn : n % 2 = 0) :
    slack p xs n = ((xs.take (C11.rank p 0 n)).map (base1 7)).sum := by
  unfold slack
  rw [baseCost_eq_sum _ (by rw [C11.depunctureGo_length]; exact hn), C11.sum_depunctureGo p _ rfl]

theorem full_mem {bits : List Bool} {r : List Int} (h : SoftImage 7 bits r) : ∀ x ∈ r, x = 7 ∨ x = -7 := by
  intro x hx
  obtain ⟨i, hi, rfl⟩ := List.getElem_of_mem hx
  have := h.2 i (by rw [← h.1]; exact hi)
  have e : r.getD i 0 = r[i] := by simp [List.getD_eq_getElem?_getD, hi]
  rw [e] at this
  unfold Carries at this
  split at this <;> omega

theorem roundDiv_zero : roundDiv 0 7 = 0 := by decide

/-- `to_byte_array` undoes the specification's MSB-first bit expansion -/
theorem pack_bitsOfBytes (bs : List Nat) (hb : Bytes.AllBytes bs) : Bytes.pack (Spec.Tx.bitsOfBytes bs) = bs := by
  rw [Spec.Tx.pack_eq, Spec.Tx.bytesOfBits_bitsOfBytes bs hb]

theorem keptSeq_length_congr (p : List Nat) : ∀ (xs : List α) (ys : List β) (pi : Nat), xs.length = ys.length →
    (C11.keptSeq p pi xs).length = (C11.keptSeq p pi ys).length := fun xs ys pi h => by
  rw [C11.keptSeq_length, C11.keptSeq_length, h]

theorem convEncode_length (u : List Bool) : (Spec.convEncode u).length = 2 * (u.length + 4) := by
  unfold Spec.convEncode
  rw [Lists.flat_length, convFrom_length]; simp

theorem kept_convEncode (p : List Nat) (u : List Bool) (n : Nat) (hn : 2 * (u.length + 4) = n) :
    (C11.keptSeq p 0 (Spec.convEncode u)).length = C11.rank p 0 n := by
  rw [C11.keptSeq_length, convEncode_length, hn]

theorem punct_length (p : List Nat) (hp : 0 < p.length) (u : List Bool) (n out : Nat) (hn : 2 * (u.length + 4) = n)
    (hk : out ≤ C11.rank p 0 n) : (Spec.Tx.punct p (Spec.convEncode u) out).length = out := by
  rw [punct_eq p hp, List.length_take, kept_convEncode p u n hn]
  omega

/-- a frame kind as the FEC chain sees it: matrix `p`, `n` coded bits for `k` payload bits, `out` of them transmitted -/
structure Geom (p : List Nat) (n k out : Nat) : Prop where
  pos : 0 < p.length
  len : n = 2 * (k + 4)
  kept : out ≤ C11.rank p 0 n
  noDbl : noDouble p n out = true
  small : 318 * (k + 4) < 2 ^ 30 - 1

theorem geomLsf : Geom Gen.p1 488 240 368 :=
  ⟨by decide, rfl, Nat.le_of_eq C11.kept_lsf.symm, geometries_noDouble.1, by decide⟩
theorem geomStream : Geom Gen.p2 296 144 272 :=
  ⟨by decide, rfl, Nat.le_of_eq C11.kept_stream.symm, geometries_noDouble.2.1, by decide⟩
theorem geomPacket : Geom Gen.p3 420 206 368 :=
  ⟨by decide, rfl, Nat.le_of_eq C11.kept_packet.symm, geometries_noDouble.2.2.1, by decide⟩
theorem geomBert : Geom Gen.p2 402 197 368 :=
  ⟨by decide, rfl, by rw [C11.kept_bert.1]; decide, geometries_noDouble.2.2.2, by decide⟩

theorem p1_pos : 0 < Gen.p1.length := geomLsf.pos
theorem p2_pos : 0 < Gen.p2.length := geomStream.pos

namespace Geom
variable {p : List Nat} {n k out : Nat} (G : Geom p n k out)
include G

theorem punct_length (u : List Bool) (hu : u.length = k) : (Spec.Tx.punct p (Spec.convEncode u) out).length = out :=
  C01F.punct_length p G.pos u n out (by rw [hu, G.len]) G.kept

theorem fec (lo : Int) (hlo : 1 ≤ lo) (u : List Bool) (hu : u.length = k) (r : List Int)
    (hr : SoftImage lo (Spec.Tx.punct p (Spec.convEncode u) out) r) :
    Dec.fec p r n k = (roundDiv (slack p r n) 7, u, Bytes.pack u) := by
  subst hu
  exact fec_clean lo hlo p G.pos u r out n G.len (by rw [hr.1, G.punct_length u rfl]) G.noDbl G.small hr

theorem slack_zero {bits : List Bool} {r : List Int} (h : SoftImage 7 bits r) : slack p r n = 0 := by
  rw [slack_eq_sum p r n (by rw [G.len]; omega), List.sum_eq_zero_iff_forall_eq_nat]
  intro x hx
  obtain ⟨y, hy, rfl⟩ := List.mem_map.mp hx
  rcases full_mem h y (List.mem_of_mem_take hy) with rfl | rfl <;> rfl

end Geom

/-- the reported cost of a clean frame: `round(slack/7)` of the de-randomized, de-interleaved, de-punctured block -/
def cleanCost (p : List Nat) (frame : List Int) (n : Nat) : Nat :=
  roundDiv (slack p (deinterleaveSoft (randSoft frame)) n) 7

/-- LSF, packet and BERT frames are one block of 368; a stream frame is two (`stream_split`) -/
theorem Geom.frame {p : List Nat} {n k : Nat} (G : Geom p n k 368) (lo : Int) (hlo : 1 ≤ lo) (u : List Bool) (hu : u.length = k)
    (frame : List Int) (hr : SoftImage lo (Spec.Tx.rnd (Spec.Tx.ileave (Spec.Tx.punct p (Spec.convEncode u) 368))) frame) :
    Dec.fec p (deinterleaveSoft (randSoft frame)) n k = (cleanCost p frame n, u, Bytes.pack u) :=
  G.fec lo hlo u hu _ (condition_image lo hlo _ frame (G.punct_length u hu) hr)

theorem Geom.cleanCost_zero {p : List Nat} {n k : Nat} (G : Geom p n k 368) (u : List Bool) (hu : u.length = k) (frame : List Int)
    (hr : SoftImage 7 (Spec.Tx.rnd (Spec.Tx.ileave (Spec.Tx.punct p (Spec.convEncode u) 368))) frame) : cleanCost p frame n = 0 := by
  unfold cleanCost
  rw [G.slack_zero (condition_image 7 (by decide) _ frame (G.punct_length u hu) hr), roundDiv_zero]

theorem softImage_append {lo : Int} {a b : List Bool} {r : List Int} (h : SoftImage lo (a ++ b) r) :
    SoftImage lo a (r.take a.length) ∧ SoftImage lo b (r.drop a.length) := by
  obtain ⟨hl, hp⟩ := h
  rw [List.length_append] at hl hp
  refine ⟨⟨by rw [List.length_take]; omega, fun i hi => ?_⟩, ⟨by rw [List.length_drop]; omega, fun i hi => ?_⟩⟩
  · simpa [List.getD_eq_getElem?_getD, List.getElem?_append_left hi, List.getElem?_take, hi] using hp i (by omega)
  · simpa [List.getD_eq_getElem?_getD, List.getElem?_append_right, List.getElem?_drop] using hp (a.length + i) (by omega)

theorem lichBits_length (lsf : List Nat) (n : Nat) : (Spec.Tx.lichBits lsf n).length = 96 := by
  unfold Spec.Tx.lichBits
  simp [List.range, List.range.loop, Spec.Tx.wordBits_length]

theorem stream_split (lo : Int) (hlo : 1 ≤ lo) (lsf : List Nat) (lichN : Nat) (data : List Nat) (hd : data.length = 18)
    (frame : List Int) (hr : SoftImage lo (Spec.Tx.streamFrameBits lsf lichN data) frame) :
    SoftImage lo (Spec.Tx.lichBits lsf lichN) ((deinterleaveSoft (randSoft frame)).take 96) ∧
    SoftImage lo (Spec.Tx.punct Gen.p2 (Spec.convEncode (Spec.Tx.bitsOfBytes data)) 272) ((deinterleaveSoft (randSoft frame)).drop 96) := by
  unfold Spec.Tx.streamFrameBits at hr
  rw [← C11.gen_p2_eq_spec] at hr
  have hpl := geomStream.punct_length _ (by rw [bitsOfBytes_length, hd])
  have := softImage_append (condition_image lo hlo _ frame (by rw [List.length_append, lichBits_length, hpl]) hr)
  rwa [lichBits_length] at this

/-- **link setup frame**: for every 30-byte LSF, every decoder state and every clean soft image of the specification-encoded
    frame, `operator()(LSF sync)` decodes exactly the 30 bytes; it reports them (callback, result OK, stored as the current
    LSF, mode from the TYPE field) iff their CRC checks, and otherwise fails without a callback -/
theorem lsf_roundtrip (lo : Int) (hlo : 1 ≤ lo) (σ : DState) (lsf : List Nat) (hl : lsf.length = 30) (hb : Bytes.AllBytes lsf)
    (frame : List Int) (cb : Bool) (hr : SoftImage lo (Spec.Tx.lsfFrameBits lsf) frame) :
    (Spec.crc16 lsf = 0 →
      step σ .lsf frame cb =
        { state := { mode := updateState .lsf (Spec.Tx.bitsOfBytes lsf), mask := σ.mask, lsfBuf := lsf },
          calls := [⟨.lsf, lsf, cleanCost Gen.p1 frame 488⟩], result := .ok, cost := some (cleanCost Gen.p1 frame 488) }) ∧
    (Spec.crc16 lsf ≠ 0 →
      step σ .lsf frame cb =
        { state := { mode := .lsf, mask := 0, lsfBuf := List.replicate 30 0 },
          calls := [], result := .fail, cost := some (cleanCost Gen.p1 frame 488) }) := by
  -- `lsfFrameBits lsf` is by definition `rnd (ileave (punct Spec.p1 (convEncode …) 368))`; the bridge puts the code's matrix `Gen.p1` in
  have hf := geomLsf.frame lo hlo (Spec.Tx.bitsOfBytes lsf) (by rw [bitsOfBytes_length, hl]) frame (C11.gen_p1_eq_spec ▸ hr)
  rw [pack_bitsOfBytes lsf hb] at hf
  rw [step_lsf]
  unfold decodeLsf
  simp only [hf, C05.crcOf_is_m17_crc]
  exact ⟨fun h => if_pos h, fun h => if_neg h⟩

/-- **packet frame** (206 bits = 25 bytes ‖ EOF ‖ 5-bit counter, zero padded to 26 bytes by `to_byte_array`): in either packet
    mode the callback receives exactly the packed payload; the frame ends the packet iff its EOF bit is set -/
theorem packet_roundtrip (lo : Int) (hlo : 1 ≤ lo) (σ : DState) (bits : List Bool) (hl : bits.length = 206)
    (frame : List Int) (cb : Bool) (hr : SoftImage lo (Spec.Tx.packetFrameBits bits) frame)
    (ty : FType) (hm : (σ.mode = .basicPacket ∧ ty = .basicPacket) ∨ (σ.mode = .fullPacket ∧ ty = .fullPacket)) :
    step σ .packet frame cb =
      (if (Bytes.pack bits).getD 25 0 ≥ 128 then
        { state := { σ with mode := .lsf }, calls := [⟨ty, Bytes.pack bits, cleanCost Gen.p3 frame 420⟩],
          result := if cb then .ok else .fail, cost := some (cleanCost Gen.p3 frame 420) }
      else
        { state := σ, calls := [⟨ty, Bytes.pack bits, cleanCost Gen.p3 frame 420⟩],
          result := .packetIncomplete, cost := some (cleanCost Gen.p3 frame 420) }) := by
  have hf := geomPacket.frame lo hlo bits hl frame (C11.gen_p3_eq_spec ▸ hr)
  rw [step_packet]
  rcases hm with ⟨h1, rfl⟩ | ⟨h1, rfl⟩ <;> (rw [h1]; unfold decodePacket; simp only [hf])

/-- **BERT frame** (197 bits): whatever the state, the callback receives exactly the packed 197 bits (25 bytes, last three
    bits zero) and the decoder is in BERT mode afterwards -/
theorem bert_roundtrip (lo : Int) (hlo : 1 ≤ lo) (σ : DState) (bits : List Bool) (hl : bits.length = 197)
    (frame : List Int) (cb : Bool) (hr : SoftImage lo (Spec.Tx.bertFrameBits bits) frame) :
    step σ .bert frame cb =
      { state := { σ with mode := .bert }, calls := [⟨.bert, Bytes.pack bits, cleanCost Gen.p2 frame 402⟩],
        result := .ok, cost := some (cleanCost Gen.p2 frame 402) } := by
  have hf := geomBert.frame lo hlo bits hl frame (C11.gen_p2_eq_spec ▸ hr)
  rw [step_bert]
  unfold decodeBert
  simp only [hf]

/-- **stream frame in stream mode**: the callback receives exactly the 18 data bytes (frame number ‖ 16 payload bytes),
    whatever LICH fragment rides along -/
theorem stream_roundtrip (lo : Int) (hlo : 1 ≤ lo) (σ : DState) (hm : σ.mode = .stream) (lsf : List Nat) (lichN : Nat)
    (data : List Nat) (hd : data.length = 18) (hb : Bytes.AllBytes data)
    (frame : List Int) (cb : Bool) (hr : SoftImage lo (Spec.Tx.streamFrameBits lsf lichN data) frame) :
    step σ .stream frame cb =
      { state := σ, calls := [⟨.stream, data, roundDiv (slack Gen.p2 ((deinterleaveSoft (randSoft frame)).drop 96) 296) 7⟩],
        result := .ok, cost := some (roundDiv (slack Gen.p2 ((deinterleaveSoft (randSoft frame)).drop 96) 296) 7) } := by
  have hf := geomStream.fec lo hlo _ (by rw [bitsOfBytes_length, hd]) _ (stream_split lo hlo lsf lichN data hd frame hr).2
  rw [pack_bitsOfBytes data hb] at hf
  rw [step_stream_stream hm]
  unfold decodeStream
  simp only [hf]

/-- `buffer[k] > 0` decisions on a clean soft image reproduce the bits -/
theorem SoftImage.hard {lo : Int} {bits : List Bool} {r : List Int} (h : SoftImage lo bits r) (hlo : 1 ≤ lo) :
    r.map (fun x => decide (x > 0)) = bits := by
  apply List.ext_getElem (by rw [List.length_map, h.1])
  intro i h1 h2
  have := h.2 i h2
  rw [List.getD_eq_getElem?_getD, List.getD_eq_getElem?_getD, List.getElem?_eq_getElem h2,
    List.getElem?_eq_getElem (by simpa using h1)] at this
  simp only [Option.getD_some, Carries] at this
  rw [List.getElem_map]
  cases hb : bits[i] <;> simp [hb] at this ⊢ <;> omega

theorem hardWord_eq (xs : List Int) : hardWord xs = bitsVal (xs.map fun x => decide (x > 0)) := by
  unfold hardWord bitsVal
  rw [List.foldl_map]
  congr; funext v x; split <;> simp [*]

theorem hardWord_wordBits (lo : Int) (hlo : 1 ≤ lo) (w : Nat) (hw : w < 2 ^ 24) (xs : List Int)
    (h : SoftImage lo (Spec.Tx.wordBits w 24) xs) : hardWord xs = w := by
  rw [hardWord_eq, h.hard hlo, Spec.Tx.bitsVal_wordBits, Nat.mod_eq_of_lt hw]

theorem hardWords (lo : Int) (hlo : 1 ≤ lo) (ws : List Nat) (buf : List Int)
    (h : SoftImage lo (ws.flatMap (Spec.Tx.wordBits · 24)) (buf.take (24 * ws.length))) (hws : ∀ x ∈ ws, x < 2 ^ 24)
    (k : Nat) (hk : k < ws.length) :
    hardWord ((buf.drop (24 * k)).take 24) = ws[k] := by
  rw [← Lists.take_drop_take buf (24 * k) 24 (24 * ws.length) (by omega), hardWord_eq, List.map_take, List.map_drop, h.hard hlo,
    List.flatMap_def, Lists.chunk_flatten 24 _ (by simp [Spec.Tx.wordBits_length]) k (by simpa using hk), List.getElem_map,
    Spec.Tx.bitsVal_wordBits, Nat.mod_eq_of_lt (hws _ (List.getElem_mem hk))]

/-- `byteVal`, `byteVal_hi`, `byteVal_lo` over all 256 bytes, as a Boolean -/
def byteValOK : Bool := (List.range 256).all fun b =>
  bitsVal (Spec.byteBits b) == b && bitsVal ((Spec.byteBits b).take 4) == b / 16 && bitsVal ((Spec.byteBits b).drop 4) == b % 16

theorem byteVal (b : Nat) (hb : b < 256) : bitsVal (Spec.byteBits b) = b := by
  rw [Spec.Tx.byteBits_eq, Spec.Tx.bitsVal_wordBits]; omega

theorem byteBits_nibbles (b : Nat) : Spec.byteBits b = Spec.Tx.wordBits (b / 2 ^ 4) 4 ++ Spec.Tx.wordBits b 4 :=
  Spec.Tx.wordBits_add 4 4 b

theorem byteVal_hi (b : Nat) (hb : b < 256) : bitsVal ((Spec.byteBits b).take 4) = b / 16 := by
  rw [byteBits_nibbles, List.take_left' (Spec.Tx.wordBits_length _ 4), Spec.Tx.bitsVal_wordBits]; omega

theorem byteVal_lo (b : Nat) : bitsVal ((Spec.byteBits b).drop 4) = b % 16 := by
  rw [byteBits_nibbles, List.drop_left' (Spec.Tx.wordBits_length _ 4), Spec.Tx.bitsVal_wordBits]

theorem byteVal_ok : byteValOK = true := by
  unfold byteValOK
  rw [List.all_eq_true]
  intro b hb
  have hb := List.mem_range.mp hb
  simp [byteVal b hb, byteVal_hi b hb, byteVal_lo b]

theorem byteBits_explicit (b : Nat) : ∃ x7 x6 x5 x4 x3 x2 x1 x0, Spec.byteBits b = [x7, x6, x5, x4, x3, x2, x1, x0] :=
  ⟨_, _, _, _, _, _, _, _, rfl⟩

theorem lich_slices (b0 b1 b2 b3 b4 b5 : Nat) :
    let bits := Spec.Tx.bitsOfBytes [b0, b1, b2, b3, b4, b5]
    (bits.drop (12 * 0)).take 12 = Spec.byteBits b0 ++ (Spec.byteBits b1).take 4 ∧
    (bits.drop (12 * 1)).take 12 = (Spec.byteBits b1).drop 4 ++ Spec.byteBits b2 ∧
    (bits.drop (12 * 2)).take 12 = Spec.byteBits b3 ++ (Spec.byteBits b4).take 4 ∧
    (bits.drop (12 * 3)).take 12 = (Spec.byteBits b4).drop 4 ++ Spec.byteBits b5 := by
  obtain ⟨a7, a6, a5, a4, a3, a2, a1, a0, ha⟩ := byteBits_explicit b0
  obtain ⟨c7, c6, c5, c4, c3, c2, c1, c0, hc⟩ := byteBits_explicit b1
  obtain ⟨d7, d6, d5, d4, d3, d2, d1, d0, hd⟩ := byteBits_explicit b2
  obtain ⟨e7, e6, e5, e4, e3, e2, e1, e0, he⟩ := byteBits_explicit b3
  obtain ⟨f7, f6, f5, f4, f3, f2, f1, f0, hf⟩ := byteBits_explicit b4
  obtain ⟨g7, g6, g5, g4, g3, g2, g1, g0, hg⟩ := byteBits_explicit b5
  simp only [Spec.Tx.bitsOfBytes, List.flatMap_cons, List.flatMap_nil, ha, hc, hd, he, hf, hg]
  exact ⟨rfl, rfl, rfl, rfl⟩

theorem lich_data_words (b0 b1 b2 b3 b4 b5 : Nat)
    (l0 : b0 < 256) (l1 : b1 < 256) (l2 : b2 < 256) (l3 : b3 < 256) (l4 : b4 < 256) (l5 : b5 < 256) :
    let bits := Spec.Tx.bitsOfBytes [b0, b1, b2, b3, b4, b5]
    bitsVal ((bits.drop (12 * 0)).take 12) = b0 * 16 + b1 / 16 ∧
    bitsVal ((bits.drop (12 * 1)).take 12) = (b1 % 16) * 256 + b2 ∧
    bitsVal ((bits.drop (12 * 2)).take 12) = b3 * 16 + b4 / 16 ∧
    bitsVal ((bits.drop (12 * 3)).take 12) = (b4 % 16) * 256 + b5 := by
  obtain ⟨s0, s1, s2, s3⟩ := lich_slices b0 b1 b2 b3 b4 b5
  simp only at s0 s1 s2 s3 ⊢
  rw [s0, s1, s2, s3]
  simp only [bitsVal_append, List.length_take, Spec.Tx.byteBits_length,
    byteVal b0 l0, byteVal_hi b1 l1, byteVal_lo b1, byteVal b2 l2,
    byteVal b3 l3, byteVal_hi b4 l4, byteVal_lo b4, byteVal b5 l5,
    (by decide : min 4 8 = 4), Nat.reducePow]
  exact ⟨trivial, trivial, trivial, trivial⟩

theorem lichBits_eq (lsf : List Nat) (hl : lsf.length = 30) (hb : Bytes.AllBytes lsf) (n : Nat) :
    ∃ b0 b1 b2 b3 b4, (lsf.drop (5 * (n % 6))).take 5 = [b0, b1, b2, b3, b4] ∧ b0 < 256 ∧ b1 < 256 ∧ b2 < 256 ∧ b3 < 256 ∧ b4 < 256 ∧
      Spec.Tx.lichBits lsf n =
        Spec.Tx.wordBits (Spec.golay24 (b0 * 16 + b1 / 16)) 24 ++ (Spec.Tx.wordBits (Spec.golay24 (b1 % 16 * 256 + b2)) 24 ++
        (Spec.Tx.wordBits (Spec.golay24 (b3 * 16 + b4 / 16)) 24 ++ Spec.Tx.wordBits (Spec.golay24 (b4 % 16 * 256 + n % 8 * 32)) 24)) := by
  have hmem : ∀ b ∈ (lsf.drop (5 * (n % 6))).take 5, b < 256 := fun b h => hb b (List.mem_of_mem_drop (List.mem_of_mem_take h))
  have hlen : ((lsf.drop (5 * (n % 6))).take 5).length = 5 := by rw [List.length_take, List.length_drop, hl]; omega
  unfold Spec.Tx.lichBits
  match (lsf.drop (5 * (n % 6))).take 5, hlen, hmem with
  | [b0, b1, b2, b3, b4], _, hmem =>
    simp only [List.forall_mem_cons] at hmem
    obtain ⟨l0, l1, l2, l3, l4, -⟩ := hmem
    obtain ⟨d0, d1, d2, d3⟩ := lich_data_words b0 b1 b2 b3 b4 (n % 8 * 32) l0 l1 l2 l3 l4 (by omega)
    unfold bitsVal at d0 d1 d2 d3
    refine ⟨b0, b1, b2, b3, b4, rfl, l0, l1, l2, l3, l4, ?_⟩
    simp only [List.cons_append, List.nil_append, List.range, List.range.loop, List.flatMap_cons, List.flatMap_nil, List.append_nil,
      d0, d1, d2, d3]

/-- **LICH of a clean stream frame**: `unpack_lich` returns exactly the six LICH bytes the specification puts into the frame —
    five bytes of the LSF at slot `lichN mod 6` and the fragment counter `lichN mod 8` in the top three bits of the sixth -/
theorem lich_roundtrip (lo : Int) (hlo : 1 ≤ lo) (lsf : List Nat) (hl : lsf.length = 30) (hb : Bytes.AllBytes lsf) (lichN : Nat)
    (data : List Nat) (hd : data.length = 18)
    (frame : List Int) (hr : SoftImage lo (Spec.Tx.streamFrameBits lsf lichN data) frame) :
    unpackLich (deinterleaveSoft (randSoft frame)) = some ((lsf.drop (5 * (lichN % 6))).take 5 ++ [(lichN % 8) * 32]) := by
  have hs := (stream_split lo hlo lsf lichN data hd frame hr).1
  generalize deinterleaveSoft (randSoft frame) = buf at hs ⊢
  obtain ⟨b0, b1, b2, b3, b4, hseg, l0, l1, l2, l3, l4, hlb⟩ := lichBits_eq lsf hl hb lichN
  have l5 : lichN % 8 * 32 < 256 := by omega
  rw [hlb] at hs
  rw [hseg]
  generalize lichN % 8 * 32 = b5 at hs l5 ⊢
  have d (x y z : Nat) (hx : x < 256) (hy : y < 256) (hz : z < 256) : x * 16 + y / 16 < 4096 ∧ y % 16 * 256 + z < 4096 := by omega
  obtain ⟨d0, d1⟩ := d b0 b1 b2 l0 l1 l2
  obtain ⟨d2, d3⟩ := d b3 b4 b5 l3 l4 l5
  rw [← C04.encode24_eq_spec _ d0, ← C04.encode24_eq_spec _ d1, ← C04.encode24_eq_spec _ d2, ← C04.encode24_eq_spec _ d3] at hs
  -- the hard decisions are the four Golay words themselves: `unpack_lich_correct` with all four error words 0
  have w (k : Nat) (hk : k < 4) := (hardWords lo hlo [_, _, _, _] buf (by simpa using hs) (by
    simp only [List.forall_mem_cons]
    exact ⟨(C04.encode_systematic _ d0).2, (C04.encode_systematic _ d1).2, (C04.encode_systematic _ d2).2,
      (C04.encode_systematic _ d3).2, by simp⟩) k hk).trans (Nat.xor_zero _).symm
  exact C05.unpack_lich_correct buf l0 l1 l2 l3 l4 l5 (by decide) (w 0 (by decide)) (w 1 (by decide)) (w 2 (by decide)) (w 3 (by decide))

/-- **stream frame while waiting for link setup** (late entry): the first callback is the LICH fragment, bit-exact, with cost 0;
    everything the decoder does next (collect, report the reassembled LSF, enter stream mode) is governed by `M17.C05` -/
theorem lich_callback (lo : Int) (hlo : 1 ≤ lo) (σ : DState) (hm : σ.mode = .lsf) (lsf : List Nat) (hl : lsf.length = 30)
    (hb : Bytes.AllBytes lsf) (lichN : Nat) (data : List Nat) (hd : data.length = 18)
    (frame : List Int) (cb : Bool) (hr : SoftImage lo (Spec.Tx.streamFrameBits lsf lichN data) frame) :
    (step σ .stream frame cb).calls.head? =
      some ⟨.lich, (lsf.drop (5 * (lichN % 6))).take 5 ++ [(lichN % 8) * 32], 0⟩ := by
  rw [step_stream_lsf hm]
  unfold decodeLich
  rw [lich_roundtrip lo hlo lsf hl hb lichN data hd frame hr]
  -- whichever branch is taken, its call list starts with the LICH callback
  simp only [apply_ite StepOut.calls, apply_ite List.head?, List.head?_cons, ite_self]

theorem lsf_cost_zero (lsf : List Nat) (hl : lsf.length = 30) (frame : List Int)
    (hr : SoftImage 7 (Spec.Tx.lsfFrameBits lsf) frame) : cleanCost Gen.p1 frame 488 = 0 :=
  geomLsf.cleanCost_zero (Spec.Tx.bitsOfBytes lsf) (by rw [bitsOfBytes_length, hl]) frame (C11.gen_p1_eq_spec ▸ hr)

theorem packet_cost_zero (bits : List Bool) (hl : bits.length = 206) (frame : List Int)
    (hr : SoftImage 7 (Spec.Tx.packetFrameBits bits) frame) : cleanCost Gen.p3 frame 420 = 0 :=
  geomPacket.cleanCost_zero bits hl frame (C11.gen_p3_eq_spec ▸ hr)

theorem stream_cost_zero (lsf : List Nat) (lichN : Nat) (data : List Nat) (hd : data.length = 18) (frame : List Int)
    (hr : SoftImage 7 (Spec.Tx.streamFrameBits lsf lichN data) frame) :
    roundDiv (slack Gen.p2 ((deinterleaveSoft (randSoft frame)).drop 96) 296) 7 = 0 := by
  rw [geomStream.slack_zero (stream_split 7 (by decide) lsf lichN data hd frame hr).2, roundDiv_zero]

theorem rnd_ileave_length (bits : List Bool) : (Spec.Tx.rnd (Spec.Tx.ileave bits)).length = 368 := rnd_length _ (ileave_length _)

theorem frame_bits (sync : List Nat) (hs : sync.length = 2) (bits : List Bool) :
    Spec.Tx.bitsOfBytes ((sync ++ Spec.Tx.bytesOfBits (Spec.Tx.rnd (Spec.Tx.ileave bits))).drop 2) = Spec.Tx.rnd (Spec.Tx.ileave bits) := by
  rw [List.drop_left' hs, Spec.Tx.bitsOfBytes_bytesOfBits _ (by rw [rnd_ileave_length])]

theorem lsfFrame_bits (lsf : List Nat) : Spec.Tx.bitsOfBytes ((Spec.Tx.lsfFrame lsf).drop 2) = Spec.Tx.lsfFrameBits lsf :=
  frame_bits _ rfl _

theorem streamFrame_bits (lsf : List Nat) (lichN fn : Nat) (payload : List Nat) :
    Spec.Tx.bitsOfBytes ((Spec.Tx.streamFrame lsf lichN fn payload).drop 2) =
      Spec.Tx.streamFrameBits lsf lichN ([fn / 256 % 256, fn % 256] ++ payload) :=
  frame_bits _ rfl _

def softAt (m : Int) (bits : List Bool) : List Int := bits.map fun b => if b then m else -m

/-- `SoftImage` is not vacuous: every bit sequence has an image at every magnitude 1..7 -/
theorem softAt_image (m : Int) (_h1 : 1 ≤ m) (h7 : m ≤ 7) (bits : List Bool) : SoftImage m bits (softAt m bits) := by
  refine ⟨by simp [softAt], ?_⟩
  intro i hi
  have : (softAt m bits).getD i 0 = if bits.getD i false then m else -m := by
    simp [softAt, List.getD_eq_getElem?_getD, hi]
  rw [this]
  unfold Carries
  cases bits.getD i false <;> simp <;> omega

theorem softImage_weaken (lo : Int) (hlo : 1 ≤ lo) (bits : List Bool) (r : List Int) (h : SoftImage lo bits r) : SoftImage 1 bits r := by
  refine ⟨h.1, fun i hi => ?_⟩
  have := h.2 i hi
  revert this
  unfold Carries
  cases bits.getD i false <;> simp <;> omega

example : SoftImage 7 [true, false] [7, -7] := softAt_image 7 (by decide) (by decide) [true, false]
example : SoftImage 1 [true, false, true] [3, -7, 1] := by
  unfold SoftImage Carries; decide

end M17.C01F
