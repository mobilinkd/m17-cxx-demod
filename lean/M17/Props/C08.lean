/-
C08 — the frame decoder follows its documented state machine; the outcome for a frame depends only on the mode,
the LICH fragments collected so far and the frame itself.
-/
import M17.Lemmas.Decoder
import M17.Spec.DecoderSM

namespace M17.C08
open M17.Dec
open M17.Spec (SM.Obs)

def toM : Mode → Spec.SM.Mode
  | .lsf => .lsf | .stream => .stream | .basicPacket => .basicPacket | .fullPacket => .fullPacket | .bert => .bert
def toS : Sync → Spec.SM.Sync
  | .lsf => .lsf | .stream => .stream | .packet => .packet | .bert => .bert
def toR : Result → Spec.SM.Result
  | .fail => .fail | .ok => .ok | .eos => .eos | .incomplete => .incomplete | .packetIncomplete => .packetIncomplete
def toK : FType → Spec.SM.Kind
  | .lsf => .lsf | .lich => .lich | .stream => .stream | .basicPacket => .basicPacket | .fullPacket => .fullPacket | .bert => .bert

def cond (frame : List Int) : List Int := Cond.deinterleaveSoft (Cond.randSoft frame)

/-- the abstract observations, as the decoder computes them from the frame and its LICH state -/
def obsOf (σ : DState) (frame : List Int) (cb : Bool) : SM.Obs :=
  let buf := cond frame
  let l := fec Gen.p1 buf 488 240
  let lich := unpackLich buf
  let fn := ((lich.getD []).getD 5 0 >>> 5) % 8
  let lsf' := setSlot σ.lsfBuf fn ((lich.getD []).take 5)
  { lsfCrcOk := crcOf l.2.2 = 0,
    isStream := l.2.1.getD 111 false,
    voiceBit := l.2.1.getD 109 false,
    rawPacket := 2 * (l.2.1.getD 109 false).toNat + (l.2.1.getD 110 false).toNat = 1,
    golayOk := lich.isSome,
    fragInRange := fn ≤ Gen.maxLichFragment,
    allSix := ((σ.mask ||| 2 ^ fn) % 256) % 64 = 63,
    lichCrcOk := crcOf lsf' = 0,
    eof := (fec Gen.p3 buf 420 206).2.2.getD 25 0 ≥ 128,
    cb := cb }

-- needed: the `rfl`s by which `step_refines_spec` feeds the fields of `obsOf` to the `*_core` lemmas compare terms built from these
-- functions; left unfoldable, the unifier unfolds them on the symbolic frame and `step_refines_spec` times out
attribute [local irreducible] fec unpackLich crcOf Cond.deinterleaveSoft Cond.randSoft setSlot

abbrev view (o : StepOut) : Spec.SM.Mode × Spec.SM.Result × List Spec.SM.Kind :=
  (toM o.state.mode, toR o.result, o.calls.map (toK ∘ Callback.ftype))

/-! Each decoder against the specification, for ANY observation record that agrees with what the decoder computes.  The
    observations stay a variable `o` here: once `obsOf` is put in, an `if` on one of its fields makes the kernel evaluate the FEC
    chain on the symbolic frame whenever it has to reduce that `if`. -/

theorem lsf_core (σ : DState) {buf : List Int} {o : SM.Obs} {m : Spec.SM.Mode}
    {r : Nat × List Bool × List Nat} (hr : fec Gen.p1 buf 488 240 = r)
    (h1 : o.lsfCrcOk = decide (crcOf r.2.2 = 0)) (h2 : o.isStream = r.2.1.getD 111 false) (h3 : o.voiceBit = r.2.1.getD 109 false)
    (h4 : o.rawPacket = decide (2 * (r.2.1.getD 109 false).toNat + (r.2.1.getD 110 false).toNat = 1)) :
    view (decodeLsf { σ with mode := .lsf } buf) = Spec.SM.step m .lsf o := by
  simp only [Spec.SM.step, decodeLsf, updateState, hr]
  by_cases hc : crcOf r.2.2 = 0
  · simp only [hc, if_true, h1, h2, h3, h4, decide_true]
    cases r.2.1.getD 111 false <;> cases r.2.1.getD 109 false <;> cases r.2.1.getD 110 false <;> simp [view, toM, toR, toK]
  · simp [hc, h1, view, toM, toR]

theorem lich_core (σ : DState) {buf : List Int} {o : SM.Obs} (hm : σ.mode = .lsf)
    {u : Option (List Nat)} (hu : unpackLich buf = u) {fn : Nat} (hfn : ((u.getD []).getD 5 0 >>> 5) % 8 = fn)
    {m8 : Nat} (hm8 : (σ.mask ||| 2 ^ fn) % 256 = m8) {c : Nat} (hc : crcOf (setSlot σ.lsfBuf fn ((u.getD []).take 5)) = c)
    (h1 : o.golayOk = u.isSome) (h2 : o.fragInRange = decide (fn ≤ Gen.maxLichFragment))
    (h3 : o.allSix = decide (m8 % 64 = 63)) (h4 : o.lichCrcOk = decide (c = 0)) :
    view (decodeLich σ buf) = Spec.SM.step .lsf .stream o := by
  unfold Spec.SM.step decodeLich
  rw [hu]
  cases u with
  | none => simp [h1, view, toM, toR, hm]
  | some lich =>
    simp only [Option.getD_some] at hfn hc
    simp only [hfn, hm8, hc, h1, h2, h3, h4, Option.isSome_some, Bool.not_true, Bool.false_eq_true, if_false]
    by_cases hf : fn > Gen.maxLichFragment
    · have : ¬ fn ≤ Gen.maxLichFragment := by omega
      simp [hf, this, view, toM, toR, toK, hm]
    · have hle : fn ≤ Gen.maxLichFragment := by omega
      simp only [hf, if_false, hle, decide_true, Bool.not_true, Bool.false_eq_true]
      by_cases h6 : m8 % 64 = 63
      · by_cases hc0 : c = 0 <;> simp [h6, hc0, view, toM, toR, toK, hm]
      · simp [h6, view, toM, toR, toK, hm]

theorem packet_core (σ : DState) {buf : List Int} (ty : FType) (cb : Bool) {o : SM.Obs}
    {e : Nat} (he : (fec Gen.p3 buf 420 206).2.2.getD 25 0 = e) (h1 : o.eof = decide (e ≥ 128)) (h2 : o.cb = cb) :
    view (decodePacket σ buf ty cb) =
      (if o.eof then (Spec.SM.Mode.lsf, (if o.cb then Spec.SM.Result.ok else .fail), [toK ty])
       else (toM σ.mode, .packetIncomplete, [toK ty])) := by
  simp only [decodePacket, he]
  subst h2
  by_cases h128 : e ≥ 128
  · cases o.cb <;> simp [h128, h1, view, toM, toR, toK]
  · simp [h128, h1, view, toM, toR, toK]

/-- **the modelled `operator()` simulates the documented state machine**: mode after the frame, return code and
    the sequence of callback kinds are those of `Spec.SM.step`, for every state, sync type, content and callback result -/
theorem step_refines_spec (σ : DState) (sync : Sync) (frame : List Int) (cb : Bool) :
    view (step σ sync frame cb) = Spec.SM.step (toM σ.mode) (toS sync) (obsOf σ frame cb) := by
  cases sync
  · rw [step_lsf]; exact lsf_core σ rfl rfl rfl rfl rfl
  · rw [step_stream]
    cases hm : σ.mode
    · exact lich_core σ hm rfl rfl rfl rfl rfl rfl rfl rfl
    · simp [hm, decodeStream, view, toM, toS, toR, toK, Spec.SM.step]
    · simp [view, toM, toS, toR, Spec.SM.step]
    · simp [view, toM, toS, toR, Spec.SM.step]
    · simp [view, toM, toS, toR, Spec.SM.step]
  · rw [step_packet]
    cases hm : σ.mode
    · simp [view, toM, toS, toR, Spec.SM.step]
    · simp [view, toM, toS, toR, Spec.SM.step]
    · exact (packet_core σ .basicPacket cb rfl rfl rfl).trans (by rw [hm]; rfl)
    · exact (packet_core σ .fullPacket cb rfl rfl rfl).trans (by rw [hm]; rfl)
    · simp [view, toM, toS, toR, Spec.SM.step]
  · rw [step_bert]; simp [decodeBert, view, toM, toS, toR, toK, Spec.SM.step]

/-- LSF sync always restarts link setup: the outcome does not depend on the state the decoder was in; it is either
    (OK, one LSF callback) or (FAIL, no callback, mode LSF) -/
theorem lsf_sync_restarts (σ σ' : DState) (frame : List Int) (cb cb' : Bool) :
    view (step σ .lsf frame cb) = view (step σ' .lsf frame cb') ∧
    (view (step σ .lsf frame cb) = (.lsf, .fail, []) ∨
      ((view (step σ .lsf frame cb)).2 = (.ok, [.lsf]) ∧ (view (step σ .lsf frame cb)).1 ≠ .bert)) := by
  rw [step_refines_spec, step_refines_spec]
  refine ⟨rfl, ?_⟩
  generalize obsOf σ frame cb = o
  simp only [Spec.SM.step, toS]
  grind

/-- while waiting for link setup, stream frames are LICH-collected: callbacks are none, [LICH] or [LICH, LSF]; stream
    mode is entered exactly when the reassembled LSF is reported -/
theorem stream_in_lsf_mode_collects_lich (σ : DState) (frame : List Int) (cb : Bool) (hm : σ.mode = .lsf) :
    let v := view (step σ .stream frame cb)
    (v = (.lsf, .fail, []) ∨ v = (.lsf, .incomplete, [.lich]) ∨ v = (.stream, .ok, [.lich, .lsf])) := by
  simp only
  rw [step_refines_spec, hm]
  generalize obsOf σ frame cb = o
  simp only [Spec.SM.step, toS, toM]
  grind

theorem stream_mode_decodes (σ : DState) (frame : List Int) (cb : Bool) (hm : σ.mode = .stream) :
    view (step σ .stream frame cb) = (.stream, .ok, [.stream]) := by
  rw [step_refines_spec, hm]; rfl

/-- stream mode is entered only by a (voice) stream LSF or by a completed LICH reassembly -/
theorem stream_mode_entry (σ : DState) (sync : Sync) (frame : List Int) (cb : Bool)
    (h : (view (step σ sync frame cb)).1 = .stream) (hn : σ.mode ≠ .stream) :
    (sync = .lsf ∧ (view (step σ sync frame cb)).2 = (.ok, [.lsf])) ∨
    (sync = .stream ∧ σ.mode = .lsf ∧ (view (step σ sync frame cb)).2 = (.ok, [.lich, .lsf])) := by
  rw [step_refines_spec] at h ⊢
  generalize obsOf σ frame cb = o at *
  cases sync <;> cases hm : σ.mode <;> simp only [Spec.SM.step, toS, toM, hm] at h ⊢ <;> grind

/-- packet frames are accepted only in a packet mode, and packet modes are entered only by an LSF-sync frame -/
theorem packet_only_after_packet_lsf (σ : DState) (sync : Sync) (frame : List Int) (cb : Bool) :
    (sync = .packet → σ.mode ≠ .basicPacket → σ.mode ≠ .fullPacket → view (step σ sync frame cb) = (.lsf, .fail, [])) ∧
    (((view (step σ sync frame cb)).1 = .basicPacket ∨ (view (step σ sync frame cb)).1 = .fullPacket) →
      sync = .lsf ∨ (sync = .packet ∧ (toM σ.mode = (view (step σ sync frame cb)).1))) := by
  rw [step_refines_spec]
  generalize obsOf σ frame cb = o
  cases sync <;> cases hm : σ.mode <;> simp only [Spec.SM.step, toS, toM] <;> grind

/-- a packet ends at the EOF bit with the callback's verdict; otherwise the mode is kept -/
theorem packet_ends_at_eof (σ : DState) (frame : List Int) (cb : Bool)
    (hm : σ.mode = .basicPacket ∨ σ.mode = .fullPacket) :
    view (step σ .packet frame cb) =
      (if (obsOf σ frame cb).eof then (.lsf, (if cb then .ok else .fail), [toK (if σ.mode = .basicPacket then .basicPacket else .fullPacket)])
       else (toM σ.mode, .packetIncomplete, [toK (if σ.mode = .basicPacket then .basicPacket else .fullPacket)])) := by
  rw [step_refines_spec]
  have hcb : (obsOf σ frame cb).cb = cb := rfl
  rcases hm with hm | hm <;> simp [Spec.SM.step, toS, toM, toK, hm, hcb]

theorem bert_always_bert (σ : DState) (frame : List Int) (cb : Bool) :
    view (step σ .bert frame cb) = (.bert, .ok, [.bert]) := by
  rw [step_refines_spec]; rfl

/-- a sync type that is not valid in the current mode drops back to link setup and fails, with no callback -/
theorem invalid_sync_drops_to_lsf_fail (σ : DState) (frame : List Int) (cb : Bool) :
    ((σ.mode = .basicPacket ∨ σ.mode = .fullPacket ∨ σ.mode = .bert) → view (step σ .stream frame cb) = (.lsf, .fail, [])) ∧
    ((σ.mode = .lsf ∨ σ.mode = .stream ∨ σ.mode = .bert) → view (step σ .packet frame cb) = (.lsf, .fail, [])) := by
  rw [step_refines_spec, step_refines_spec]
  constructor <;> intro h <;> rcases h with h | h | h <;> simp [Spec.SM.step, toS, toM, h]

/-- within the model, what is reported for a payload frame does not depend on the LICH state at all, and what is
    reported for an LSF / BERT frame does not depend on the previous state at all -/
theorem outcome_depends_on_abstract_state (σ σ' : DState) (frame : List Int) (cb : Bool) :
    (σ.mode = .stream → σ'.mode = .stream →
      (step σ .stream frame cb).calls = (step σ' .stream frame cb).calls ∧
      (step σ .stream frame cb).result = (step σ' .stream frame cb).result ∧
      (step σ .stream frame cb).cost = (step σ' .stream frame cb).cost) ∧
    ((step σ .bert frame cb).calls = (step σ' .bert frame cb).calls ∧ (step σ .bert frame cb).cost = (step σ' .bert frame cb).cost) ∧
    ((step σ .lsf frame cb).calls = (step σ' .lsf frame cb).calls ∧ (step σ .lsf frame cb).cost = (step σ' .lsf frame cb).cost ∧
      (step σ .lsf frame cb).result = (step σ' .lsf frame cb).result) := by
  refine ⟨?_, ?_, ?_⟩
  · intro h h'
    rw [step_stream_stream h, step_stream_stream h']; exact ⟨rfl, rfl, rfl⟩
  · rw [step_bert, step_bert]; exact ⟨rfl, rfl⟩
  · rw [step_lsf, step_lsf]
    unfold decodeLsf
    simp only
    split <;> exact ⟨rfl, rfl, rfl⟩

end M17.C08
