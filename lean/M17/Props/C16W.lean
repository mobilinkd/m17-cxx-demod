/-
C15/C16 — wake-up bookkeeping of the queue: no blocked caller sleeps un-notified while it could proceed, for every
sequence of operations and wake-ups, given the notify calls the current source makes (`genProfile`).
-/
import M17.Model.QueueWake
namespace M17.C16W
open M17.QWake

/-- what the theorems need of the notify calls in the current source: put wakes a getter, get wakes a putter, close wakes everybody -/
def ProfileOK (P : Profile) : Prop :=
  (P.putEmpty = 1 ∨ P.putEmpty = 2) ∧ (P.getFull = 1 ∨ P.getFull = 2) ∧ P.closeEmpty = 2 ∧ P.closeFull = 2

theorem gen_profile_ok : ProfileOK genProfile := by unfold ProfileOK; decide

theorem notify_facts (k : Nat) (hk : k = 1 ∨ k = 2) (f : Bool) (w n : Nat) :
    (notify k f w n).1 + (notify k f w n).2 = w + n ∧ (notify k f w n).1 ≤ w ∧ ((notify k f w n).1 > 0 → (notify k f w n).2 = n + 1) := by
  rcases hk with rfl | rfl
  · by_cases hw : w > 0 <;> simp [notify, hw] <;> omega
  · simp [notify]; omega

theorem notify_all_facts (f : Bool) (w n : Nat) : (notify 2 f w n).1 = 0 := by simp [notify]

/-- the invariant, with `g` / `p` of slack in the getter / putter clause: slack 1 describes the state in the middle of a resume, after
    the resuming caller has left the waiting or the notified set and before its body runs -/
def Slack (g p : Nat) (s : S) : Prop :=
  s.items ≤ s.cap ∧ (s.st = .closing → s.items > 0) ∧ (s.st = .closed → s.items = 0) ∧
  (s.gW > 0 → s.items ≤ s.gN + g) ∧ (s.pW > 0 → s.cap - s.items ≤ s.pN + p) ∧ (s.st ≠ .opn → s.gW = 0 ∧ s.pW = 0)

def Inv (s : S) : Prop := Slack 0 0 s

theorem getBody_inv (P : Profile) (hP : ProfileOK P) (f : Bool) {s : S} {t : Bool} (h : Slack 1 0 s) : Inv (getBody P f s t) := by
  have nf := notify_facts P.getFull hP.2.1 f s.pW s.pN
  have hst : s.st = .opn ∨ s.st = .closing ∨ s.st = .closed := by cases s.st <;> simp
  -- an item taken is paid for by the slack in the getter clause; the slot it frees comes with a notification to a putter (`nf`)
  unfold getBody
  generalize notify P.getFull f s.pW s.pN = r at nf ⊢
  unfold Slack at h
  unfold Inv Slack
  split <;> grind

theorem putBody_inv (P : Profile) (hP : ProfileOK P) (f : Bool) {s : S} {z t : Bool} (h : Slack 0 1 s) : Inv (putBody P f s z t) := by
  have nf := notify_facts P.putEmpty hP.1 f s.gW s.gN
  -- the same with the parts exchanged: the slot filled is paid for by the slack, the item comes with a notification to a getter
  unfold putBody
  generalize notify P.putEmpty f s.gW s.gN = r at nf ⊢
  unfold Slack at h
  unfold Inv Slack
  grind

theorem step_inv (P : Profile) (hP : ProfileOK P) (f : Bool) (s : S) (o : Op) (h : Inv s) : Inv (step P f s o) := by
  unfold Inv Slack at h
  -- the state a body starts from has slack 1 in its own clause: an arriving caller is in neither set (`Inv` gives `Slack` outright), a resuming one
  -- has just left the waiting or the notified set, which weakens that clause by one
  cases o with
  | getArrive => exact getBody_inv P hP f (by unfold Slack; grind)
  | getResume notified timedOut =>
    simp only [step]
    split <;> split
    · exact getBody_inv P hP f (by unfold Slack; grind)
    · exact h
    · exact getBody_inv P hP f (by unfold Slack; grind)
    · exact h
  | putArrive z => exact putBody_inv P hP f (by unfold Slack; grind)
  | putResume notified timedOut =>
    simp only [step]
    split <;> split
    · exact putBody_inv P hP f (by unfold Slack; grind)
    · exact h
    · exact putBody_inv P hP f (by unfold Slack; grind)
    · exact h
  | close =>
    obtain ⟨-, -, hce, hcf⟩ := hP
    simp only [step, hce, hcf, notify, ↓reduceIte]
    unfold Inv Slack
    grind

theorem init_inv (cap : Nat) : Inv (init cap) := by
  simp [Inv, Slack, init]

theorem run_inv (cap : Nat) (ops : List (Op × Bool)) : Inv (run genProfile (init cap) ops) :=
  List.foldlRecOn ops _ (init_inv cap) fun s h o _ => step_inv genProfile gen_profile_ok o.2 s o.1 h

/-- **no lost wake-up, every reachable state**: after any sequence of arrivals and wake-ups (notified, spurious, timed out), with the
    notify calls the current source makes, a consumer sleeps un-notified only on an empty queue unless some consumer is notified and has
    yet to resume, a producer only on a full queue unless some producer is, and after close nobody sleeps un-notified -/
theorem no_lost_wakeup (cap : Nat) (ops : List (Op × Bool)) :
    let s := run genProfile (init cap) ops
    (s.gW > 0 → s.gN = 0 → s.items = 0) ∧ (s.pW > 0 → s.pN = 0 → s.items = s.cap) ∧ (s.st ≠ .opn → s.gW = 0 ∧ s.pW = 0) := by
  have h := run_inv cap ops
  obtain ⟨h1, -, -, h4, h5, h6⟩ := h
  exact ⟨fun g n => by have := h4 g; omega, fun g n => by have := h5 g; omega, h6⟩

/-- what a guarded notify in `put` would allow (the model with profile kind 3): an item in the queue while a consumer sleeps un-notified -/
example : let P : Profile := { putEmpty := 3, getFull := 1, closeEmpty := 2, closeFull := 2 }
    let s := run P (init 2) [(.getArrive, false), (.getArrive, false), (.putArrive false, true), (.putArrive false, false)]
    s.gW = 1 ∧ s.gN = 1 ∧ s.items = 2 := by decide

end M17.C16W
