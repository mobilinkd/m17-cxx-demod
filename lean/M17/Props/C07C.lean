/-
C07 — the symbol sample index stays in its documented range 0..9: for EVERY projected value (any estimate, any clock offset, any number of
samples since the last sync word) the free-running update yields an index 0..9, and so does the update after a Kalman step whose estimate
lies in [0, 10).
-/
import M17.Model.Clock

namespace M17.C07C
open M17.Clock

theorem wrap_round_in_range (csw : Int) (h : 0 ≤ csw ∧ csw ≤ 10 * U) : 0 ≤ wrapIndex (roundAway csw) ∧ wrapIndex (roundAway csw) ≤ 9 := by
  unfold wrapIndex roundAway U at *
  simp only [h.1, if_true]
  have hr0 : 0 ≤ (2 * csw + 1048576) / (2 * 1048576) := by omega
  have hr1 : (2 * csw + 1048576) / (2 * 1048576) ≤ 10 := by omega
  generalize (2 * csw + 1048576) / (2 * 1048576) = r at hr0 hr1
  have : ¬ r < 0 := by omega
  simp only [this, if_false]
  split <;> omega

/-- **free-running update: index in 0..9 for every estimate, clock offset and sample count** -/
theorem free_index_in_range (est clk : Int) (count : Nat) : 0 ≤ freeIndex est clk count ∧ freeIndex est clk count ≤ 9 := by
  unfold freeIndex
  simp only
  generalize est + clk * (count : Int) = v
  have hpos : (0 : Int) < 10 * U := by unfold U; decide
  have h1 := Int.tmod_lt_of_pos v hpos
  have h2 := Int.lt_tmod_of_pos v hpos
  generalize Int.tmod v (10 * U) = c0 at h1 h2
  apply wrap_round_in_range
  split
  · omega
  · split <;> omega

/-- update after a sync word: the Kalman estimate is kept in [0, 10), so the index is 0..9 -/
theorem locked_index_in_range (est : Int) (h0 : 0 ≤ est) (h1 : est < 10 * U) : 0 ≤ lockedIndex est ∧ lockedIndex est ≤ 9 :=
  wrap_round_in_range est ⟨h0, Int.le_of_lt h1⟩

example : freeIndex (95 * 104857) 100 206680 = 9 := by decide +kernel
example : freeIndex (9 * 1048576 + 600000) 0 0 = 0 := by decide +kernel

end M17.C07C
