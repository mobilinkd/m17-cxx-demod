/-
C11 — puncture / depuncture keep positions exactly and mark everything else erased.
Generic in the matrix, the lengths, the contents and the previous content of the output buffer;
then instantiated for the four (matrix, length) pairs of the modem.
-/
import M17.Model.Puncture
import M17.Spec.Fec
import M17.Lemmas.Cond

namespace M17.C11
open M17.Punct M17.Bytes

theorem gen_p1_eq_spec : Gen.p1 = Spec.p1 := by decide
theorem gen_p2_eq_spec : Gen.p2 = Spec.p2 := by decide
theorem gen_p3_eq_spec : Gen.p3 = Spec.p3 := by decide

/-- matrix row reached after `i` loop iterations starting at `pi` -/
def pIdx (p : List Nat) : Nat → Nat → Nat
  | pi, 0 => pi
  | pi, i+1 => pIdx p (nextP p pi) i

/-- the loop's wrap-around is the cyclic repetition of the matrix -/
theorem pIdx_eq_mod (p : List Nat) (pi i : Nat) (hpi : pi < p.length) : pIdx p pi i = (pi + i) % p.length := by
  induction i generalizing pi with
  | zero => simp [pIdx, Nat.mod_eq_of_lt hpi]
  | succ i ih =>
    simp only [pIdx]
    unfold nextP
    by_cases h : pi + 1 = p.length
    · rw [if_pos h, ih 0 (by omega)]
      have : pi + (i + 1) = i + p.length := by omega
      rw [this, Nat.zero_add, Nat.add_mod_right]
    · rw [if_neg h, ih (pi + 1) (by omega)]
      congr 1; omega

/-- kept values in order: positions where the cyclically repeated matrix is 1 -/
def keptSeq (p : List Nat) : Nat → List α → List α
  | _, [] => []
  | pi, x :: xs => if pAt p pi then x :: keptSeq p (nextP p pi) xs else keptSeq p (nextP p pi) xs

/-- number of kept positions among the first `i` -/
def rank (p : List Nat) : Nat → Nat → Nat
  | _, 0 => 0
  | pi, i+1 => (if pAt p pi then 1 else 0) + rank p (nextP p pi) i

/-- **puncturing keeps exactly the positions where the matrix is 1, in order, up to the output size** -/
theorem puncture_spec (p : List Nat) (pi : Nat) (xs : List α) (room : Nat) :
    punctureGo p pi xs room = (keptSeq p pi xs).take room := by
  induction xs generalizing pi room with
  | nil => cases room <;> simp [punctureGo, keptSeq]
  | cons x xs ih =>
    cases room with
    | zero => simp [punctureGo]
    | succ room =>
      simp only [punctureGo, keptSeq]
      split
      · simp [ih]
      · exact ih _ _

theorem punctureGo_map {β} (f : α → β) (p : List Nat) (xs : List α) (pi room : Nat) :
    punctureGo p pi (xs.map f) room = (punctureGo p pi xs room).map f := by
  fun_induction punctureGo p pi xs room <;> simp [punctureGo, *]

/-- the output buffer: kept values first, previous content beyond them untouched; return value = count -/
theorem puncture_out (p : List Nat) (xs prev : List α) :
    (puncture p xs prev).1 = (keptSeq p 0 xs).take prev.length ++ prev.drop ((keptSeq p 0 xs).take prev.length).length ∧
    (puncture p xs prev).2 = ((keptSeq p 0 xs).take prev.length).length := by
  unfold puncture; simp [puncture_spec]

theorem keptSeq_rank (p : List Nat) (d : α) : ∀ (xs : List α) (pi i : Nat), i < xs.length → pAt p (pIdx p pi i) = true →
    (keptSeq p pi xs).getD (rank p pi i) d = xs.getD i d
  | x :: xs, pi, 0, _, hk => by simp only [pIdx] at hk; simp [keptSeq, hk, rank]
  | x :: xs, pi, i + 1, hi, hk => by
    have := keptSeq_rank p d xs (nextP p pi) i (by simpa using hi) hk
    simp only [keptSeq, rank]
    split <;> simpa [Nat.add_comm 1] using this

theorem keptSeq_length (p : List Nat) : ∀ (xs : List α) (pi : Nat), (keptSeq p pi xs).length = rank p pi xs.length
  | [], _ => rfl
  | _ :: xs, pi => by
    simp only [keptSeq, rank, List.length_cons]
    split <;> simp [keptSeq_length p xs, Nat.add_comm]

theorem punctureGo_length (p : List Nat) (pi : Nat) (xs : List α) (room : Nat) :
    (punctureGo p pi xs room).length = min room (rank p pi xs.length) := by
  rw [puncture_spec, List.length_take, keptSeq_length]

theorem punctureBytes_bit (p : List Nat) (inb prev : List Nat) (i : Nat)
    (hi : i < (punctureBytes p inb prev).2) :
    getBit (punctureBytes p inb prev).1 i = ((keptSeq p 0 (unpack inb)).take (8 * prev.length)).getD i false := by
  unfold punctureBytes at hi ⊢
  simp only [puncture_spec] at hi ⊢
  generalize hk : (keptSeq p 0 (unpack inb)).take (8 * prev.length) = kept at hi ⊢
  have hkl : kept.length ≤ 8 * prev.length := by rw [← hk, List.length_take]; exact Nat.min_le_left _ _
  rw [Cond.assign_range (fun i => kept.getD i false) prev kept.length hkl i (by omega), if_pos hi]

/-- **de-puncturing puts each received value back at its original position and writes the erasure
    value 0 at every punctured or not-received position** — whatever the buffer held before -/
theorem depuncture_spec (p : List Nat) : ∀ (n pi : Nat) (xs : List Int) (i : Nat), i < n →
    (depunctureGo p pi xs n).getD i 0 =
      if pAt p (pIdx p pi i) then xs.getD (rank p pi i) 0 else 0
  | n + 1, pi, xs, 0, _ => by cases xs <;> cases h : pAt p pi <;> simp [depunctureGo, pIdx, rank, h]
  | n + 1, pi, [], i + 1, hi => by
    cases h : pAt p pi <;> simpa [depunctureGo, pIdx, rank, h] using depuncture_spec p n (nextP p pi) [] i (by omega)
  | n + 1, pi, x :: xs, i + 1, hi => by
    cases h : pAt p pi
    · simpa [depunctureGo, pIdx, rank, h] using depuncture_spec p n (nextP p pi) (x :: xs) i (by omega)
    · simpa [depunctureGo, pIdx, rank, h, Nat.add_comm 1] using depuncture_spec p n (nextP p pi) xs i (by omega)

theorem depunctureGo_length (p : List Nat) : ∀ (n pi : Nat) (xs : List Int), (depunctureGo p pi xs n).length = n
  | 0, _, _ => rfl
  | n + 1, pi, xs => by
    simp only [depunctureGo]
    split
    · simp [depunctureGo_length p n]
    · split <;> simp [depunctureGo_length p n]

theorem sum_depunctureGo (p : List Nat) (f : Int → Nat) (hf : f 0 = 0) : ∀ (n pi : Nat) (xs : List Int),
    ((depunctureGo p pi xs n).map f).sum = ((xs.take (rank p pi n)).map f).sum
  | 0, _, _ => by simp [depunctureGo, rank]
  | n + 1, pi, xs => by
    have ih := sum_depunctureGo p f hf n (nextP p pi)
    cases hp : pAt p pi <;> cases xs <;> simp [depunctureGo, rank, hp, hf, ih, Nat.add_comm 1]

/-- the result does not depend on the previous content of the output buffer (only on its length) -/
theorem depuncture_prev_independent (p : List Nat) (xs prev1 prev2 : List Int) (h : prev1.length = prev2.length) :
    depuncture p xs prev1 = depuncture p xs prev2 := by
  unfold depuncture; rw [h]

/-- **depuncture after puncture is the identity on kept positions (that fit the frame), 0 elsewhere** -/
theorem depuncture_puncture (p : List Nat) (xs : List Int) (out n : Nat) (hn : n = xs.length) (i : Nat) (hi : i < n) :
    (depunctureGo p 0 (punctureGo p 0 xs out) n).getD i 0 =
      if pAt p (pIdx p 0 i) ∧ rank p 0 i < out then xs.getD i 0 else 0 := by
  rw [depuncture_spec p n 0 _ i hi, puncture_spec, List.getD_eq_getElem?_getD, List.getElem?_take]
  by_cases hk : pAt p (pIdx p 0 i) = true
  · rw [← keptSeq_rank p (0 : Int) xs 0 i (by omega) hk, List.getD_eq_getElem?_getD]
    by_cases hr : rank p 0 i < out <;> simp [hk, hr]
  · simp [hk]

/-- whether each of `n` consecutive coded positions is received (kept by the matrix and inside the frame), carrying the
    matrix row `pi` and the space `room` left in the frame like the loop of `puncture` does.  Evaluating `pIdx` and `rank`
    position by position is quadratic; the geometry theorems of C01 and C02D evaluate this list instead. -/
def recvFlags (p : List Nat) : Nat → Nat → Nat → List Bool
  | _, _, 0 => []
  | pi, room, n+1 =>
    (pAt p pi && decide (0 < room)) :: recvFlags p (nextP p pi) (if pAt p pi then room - 1 else room) n

theorem recvFlags_eq (p : List Nat) : ∀ (n pi room : Nat),
    recvFlags p pi room n = (List.range n).map fun i => pAt p (pIdx p pi i) && decide (rank p pi i < room) := by
  intro n
  induction n with
  | zero => intro _ _; rfl
  | succ n ih =>
    intro pi room
    rw [List.range_succ_eq_map, recvFlags, ih, List.map_cons, List.map_map]
    congr 1
    apply List.map_congr_left
    intro i _
    simp only [Function.comp, pIdx, rank]
    congr 2
    split <;> simp <;> omega

/-- consecutive elements two by two (a trellis step has two coded bits) -/
def pairUp : List α → List (α × α)
  | a :: b :: r => (a, b) :: pairUp r
  | _ => []

theorem pairUp_flat : ∀ (l : List (α × α)), pairUp (l.flatMap fun p => [p.1, p.2]) = l
  | [] => rfl
  | p :: l => by simp only [List.flatMap_cons, List.cons_append, List.nil_append, pairUp, pairUp_flat l]

theorem pairUp_map_range (f : Nat → α) (k : Nat) :
    pairUp ((List.range (2 * k)).map f) = (List.range k).map fun t => (f (2 * t), f (2 * t + 1)) := by
  induction k generalizing f with
  | zero => rfl
  | succ k ih =>
    have e : 2 * (k + 1) = 2 * k + 1 + 1 := by omega
    rw [e, List.range_succ_eq_map, List.range_succ_eq_map (n := 2 * k), List.range_succ_eq_map (n := k)]
    simp only [List.map_cons, List.map_map, pairUp]
    rw [ih]
    rfl

theorem mem_punctureGo (p : List Nat) : ∀ (n pi s room i : Nat), i ∈ punctureGo p pi (List.range' s n) room ↔
    s ≤ i ∧ i < s + n ∧ pAt p (pIdx p pi (i - s)) = true ∧ rank p pi (i - s) < room := by
  intro n
  induction n with
  | zero => intro pi s room i; simp [punctureGo]; omega
  | succ n ih =>
    intro pi s room i
    rw [List.range'_succ]
    cases room with
    | zero => simp [punctureGo]
    | succ room =>
      simp only [punctureGo]
      -- `i` before the run: in neither; `i = s`, its head: kept iff row `pi` is set; `i` in the tail: the induction hypothesis at the next row,
      -- with one place less in the frame if the head was kept
      rcases Nat.lt_trichotomy i s with h | rfl | h
      · split <;> simp [ih] <;> omega
      · split <;> simp [pIdx, rank, *] <;> omega
      · obtain ⟨k, rfl⟩ : ∃ k, i = s + 1 + k := ⟨i - s - 1, by omega⟩
        have e : s + 1 + k - s = k + 1 := by omega
        cases hP : pAt p (pIdx p (nextP p pi) k) <;> split <;> simp [pIdx, rank, *] <;> omega

/-! number of kept positions among the first `n` coded bits: LSF 368, stream 272, packet 368; BERT 369, so its 368-bit frame drops the
last one (position 401 is "not received") -/

theorem kept_lsf : rank Gen.p1 0 488 = 368 := by decide +kernel
theorem kept_stream : rank Gen.p2 0 296 = 272 := by decide +kernel
theorem kept_packet : rank Gen.p3 0 420 = 368 := by decide +kernel
theorem kept_bert : rank Gen.p2 0 402 = 369 ∧ pAt Gen.p2 (pIdx Gen.p2 0 401) = true ∧ rank Gen.p2 0 401 = 368 := by decide +kernel

/-- puncturing yields exactly one frame's worth of bits: 368, 272, 368, 368 (LSF, stream, BERT, packet) -/
theorem frame_sizes :
    (punctureGo Gen.p1 0 (List.range 488) 368).length = 368 ∧
    (punctureGo Gen.p2 0 (List.range 296) 272).length = 272 ∧
    (punctureGo Gen.p2 0 (List.range 402) 368).length = 368 ∧
    (punctureGo Gen.p3 0 (List.range 420) 368).length = 368 := by
  simp only [punctureGo_length, List.length_range, kept_lsf, kept_stream, kept_packet, kept_bert.1]; decide

/-- the loop as pinned leaves the last BERT slot as it was: the result depends on `prev` -/
theorem pinned_depuncture_keeps_stale_slot :
    (depunctureGoPinned Gen.p2 0 (List.replicate 368 1) (List.replicate 402 7)).getD 401 0 = 7 := by
  decide +kernel

example : (depunctureGo Gen.p2 0 (List.replicate 368 1) 402).getD 401 0 = 0 := by decide +kernel

end M17.C11
