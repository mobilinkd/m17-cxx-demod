/-
C13 / C01 — the frame builders of m17-mod (model `M17.TxMod`, written as the code is written) produce exactly the frames of the independent
specification encoder `M17.Spec.Tx`: link setup, stream and BERT frames.  With `M17.Props.C01F` this makes "frames produced by the
repository's own transmit code decode bit-exact" a theorem about the models on both sides.
-/
import M17.Model.TxMod
import M17.Props.C20P

namespace M17.C13T
open M17.TxMod M17.Cond M17.Punct M17.C01F

def toN (b : Bool) : Nat := if b then 1 else 0
def toI (b : Bool) : Int := if b then 1 else 0

theorem toN_eq (b : Bool) : toN b = b.toNat := by cases b <;> rfl
theorem toI_toNat (b : Bool) : (toI b).toNat = b.toNat := by cases b <;> rfl
theorem toI_ne_zero (b : Bool) : (toI b != 0) = b := by cases b <;> rfl

theorem msbBits_eq (b : Nat) : msbBits b = (Spec.byteBits b).map toN := by
  unfold msbBits
  rw [Spec.Tx.byteBits_eq, Spec.Tx.wordBits_eq_testBit, List.map_map]
  apply List.map_congr_left
  intro i hi
  show ((b <<< i % 2 ^ 8) &&& 2 ^ 7) >>> 7 = toN (b.testBit (8 - 1 - i))
  rw [Bits.and_two_pow, Bits.testBit_shl b i 8 8 (List.mem_range.mp hi) (Nat.le_refl _)]
  cases b.testBit (8 - 1 - i) <;> rfl

/-- `msbBits_eq` over all 256 bytes, as a Boolean -/
def msbOK : Bool := (List.range 256).all fun b => msbBits b == (Spec.byteBits b).map toN
theorem msb_ok : msbOK = true := List.all_eq_true.mpr fun b _ => beq_iff_eq.mpr (msbBits_eq b)

def stepOK : Bool := (List.range 32).all fun m => [false, true].all fun x =>
  let m' := updateMemory m (toN x)
  decide (m' < 32) && convolveBit 0o31 m' == toN (Spec.convOut (m % 16) x).1 && convolveBit 0o27 m' == toN (Spec.convOut (m % 16) x).2 &&
  m' % 16 == Spec.convNext (m % 16) x
theorem step_ok : stepOK = true := by decide +kernel

theorem step_eq (m : Nat) (hm : m < 32) (x : Bool) :
    updateMemory m (toN x) < 32 ∧ convolveBit 0o31 (updateMemory m (toN x)) = toN (Spec.convOut (m % 16) x).1 ∧
    convolveBit 0o27 (updateMemory m (toN x)) = toN (Spec.convOut (m % 16) x).2 ∧
    updateMemory m (toN x) % 16 = Spec.convNext (m % 16) x := by
  have := Lists.all_range step_ok hm
  simp only [List.all_cons, List.all_nil, Bool.and_true, Bool.and_eq_true, decide_eq_true_eq, beq_iff_eq, and_assoc] at this
  obtain ⟨m0, a0, b0, n0, m1, a1, b1, n1⟩ := this
  cases x
  · exact ⟨m0, a0, b0, n0⟩
  · exact ⟨m1, a1, b1, n1⟩

theorem encBits_eq : ∀ (bs : List Bool) (m : Nat), m < 32 →
    encBits m (bs.map toN) = (Spec.convFrom (m % 16) bs).flatMap fun p => [toN p.1, toN p.2] := by
  intro bs
  induction bs with
  | nil => intro m _; rfl
  | cons b bs ih =>
    intro m hm
    obtain ⟨h1, h2, h3, h4⟩ := step_eq m hm b
    simp only [List.map_cons, encBits, Spec.convFrom, List.flatMap_cons, List.cons_append, List.nil_append]
    rw [h2, h3, ih _ h1, h4]

theorem encBits_flush (bs : List Bool) : encBits 0 (bs.map toN ++ [0, 0, 0, 0]) = (Spec.convEncode bs).map toN := by
  rw [show ([0, 0, 0, 0] : List Nat) = [false, false, false, false].map toN from rfl, ← List.map_append, encBits_eq _ 0 (by decide)]
  exact (List.map_flatMap (f := toN) (g := fun p : Bool × Bool => [p.1, p.2])).symm

theorem flatMap_msb (bytes : List Nat) : bytes.flatMap msbBits = (Spec.Tx.bitsOfBytes bytes).map toN := by
  rw [funext msbBits_eq]
  exact List.map_flatMap.symm

theorem encodeBytes_eq (bytes : List Nat) :
    encodeBytes bytes = (Spec.convEncode (Spec.Tx.bitsOfBytes bytes)).map toN := by
  unfold encodeBytes
  rw [flatMap_msb, encBits_flush]

theorem punct_eq_spec (p : List Nat) (hp : 0 < p.length) (cbits : List Bool) (n : Nat) :
    punct p (cbits.map toN) n = (Spec.Tx.punct p cbits n).map toI := by
  unfold punct
  rw [List.map_map]
  have : (Int.ofNat ∘ toN) = toI := funext fun b => by cases b <;> rfl
  rw [this, C11.punctureGo_map, C11.puncture_spec, C01F.punct_eq p hp]

theorem getD_map_toI (xs : List Bool) (j : Nat) : (xs.map toI).getD j 0 = toI (xs.getD j false) := by
  simp only [List.getD_eq_getElem?_getD, List.getElem?_map]
  cases xs[j]? <;> rfl

attribute [local irreducible] Spec.Tx.ileave in
theorem ileave_eq_spec (xs : List Bool) : interleaveSoft (xs.map toI) = (Spec.Tx.ileave xs).map toI := by
  unfold interleaveSoft
  rw [C10.K_eq]
  apply Lists.list_ext_getD 0 368 Cond.scatter_length (by rw [List.length_map, C01F.ileave_length])
  intro p hp
  rw [Cond.scatter_getD C10.index_perm 0 _ p hp, getD_map_toI, getD_map_toI]
  congr 1
  rw [C01F.ileave_getD xs p hp]

theorem randBits_getD (r : List Int) (i : Nat) (hi : i < r.length) : (randBits r).getD i 0 = xorLsb (r.getD i 0) (dcSign i = -1) := by
  unfold randBits
  simp [List.getD_eq_getElem?_getD, hi]

theorem randBits_eq_spec (ys : List Bool) (h : ys.length = 368) : randBits (ys.map toI) = (Spec.Tx.rnd ys).map toI := by
  apply Lists.list_ext_getD 0 368 (by unfold randBits; simp [h]) (by rw [List.length_map, C01F.rnd_length ys h])
  intro i hi
  rw [randBits_getD _ i (by rw [List.length_map, h]; exact hi), getD_map_toI, getD_map_toI, C01F.rnd_getD ys h i hi]
  exact (C10.rand_variants_agree 1 (by decide) (by decide) _ i).2

theorem packBits_eq_spec (bits : List Bool) (h8 : bits.length % 8 = 0) : packBits (bits.map toI) = Spec.Tx.bytesOfBits bits := by
  unfold packBits Spec.Tx.bytesOfBits
  simp only [List.length_map, ← List.map_drop, ← List.map_take, List.foldl_map, toI_toNat]
  rw [Spec.Tx.pack_shiftOr bits _ (by omega), (by omega : (bits.length + 7) / 8 = bits.length / 8)]

theorem channel_eq_spec (xs : List Bool) :
    packBits (randBits (interleaveSoft (xs.map toI))) = Spec.Tx.bytesOfBits (Spec.Tx.rnd (Spec.Tx.ileave xs)) := by
  rw [ileave_eq_spec, randBits_eq_spec _ (ileave_length _), packBits_eq_spec _ (by rw [rnd_ileave_length])]

theorem wordVals_eq (w : Nat) : wordVals w = (Spec.Tx.wordBits w 24).map toI := by
  unfold wordVals
  rw [Spec.Tx.wordBits_eq_testBit, List.map_map]
  apply List.map_congr_left
  intro i hi
  show (if (w <<< i % 2 ^ 32) &&& 2 ^ 23 ≠ 0 then (1 : Int) else 0) = toI (w.testBit (24 - 1 - i))
  rw [Bits.and_two_pow, Bits.testBit_shl w i 24 32 (List.mem_range.mp hi) (by decide)]
  cases w.testBit (24 - 1 - i) <;> rfl

def typeOK : Bool := (List.range 16).all fun can =>
  (can >>> 1) % 256 == Spec.Tx.voiceType can / 256 % 256 && (5 ||| ((can &&& 1) <<< 7)) % 256 == Spec.Tx.voiceType can % 256
theorem type_ok : typeOK = true := by decide

theorem crc_bytes_eq (body : List Nat) : [(Crc.crc body >>> 8) &&& 255, Crc.crc body &&& 255] = Spec.crcBytes body := by
  rw [Spec.Tx.be16_bytes, C09.impl_eq_spec, Nat.mod_eq_of_lt (Nat.div_lt_of_lt_mul (C09.crc16_lt body))]
  rfl

theorem lsfBytes_eq_spec (src dst : List Nat) (hsv : ∀ c ∈ src, C17.validChar c = true) (hs1 : 1 ≤ src.length) (hs9 : src.length ≤ 9)
    (hdv : ∀ c ∈ dst, C17.validChar c = true) (hd9 : dst.length ≤ 9) (can : Nat) (hcan : can < 16) :
    TxMod.lsfBytes src dst can = Spec.Tx.lsfBytes dst src (Spec.Tx.voiceType can) (List.replicate 14 0) := by
  unfold TxMod.lsfBytes Spec.Tx.lsfBytes
  have hs := (C20P.spec_callsign_eq src hsv hs1 hs9).symm
  have hd := C20P.spec_address_eq dst hdv hd9
  have ht := Lists.all_range type_ok hcan
  simp only [Bool.and_eq_true, beq_iff_eq] at ht
  simp only [hs, hd, ht.1, ht.2, crc_bytes_eq]

theorem lsf_len (dst src : List Nat) (typ : Nat) : (Spec.Tx.lsfBytes dst src typ (List.replicate 14 0)).length = 30 :=
  (C20P.lsf_facts dst src typ _ List.length_replicate (Bytes.zeros_bytes 14)).len

theorem lsf_allbytes (dst src : List Nat) (typ : Nat) : Bytes.AllBytes (Spec.Tx.lsfBytes dst src typ (List.replicate 14 0)) :=
  (C20P.lsf_facts dst src typ _ List.length_replicate (Bytes.zeros_bytes 14)).bytes

/-- the frame `send_lsf` puts around its link setup bytes is the specification's, whatever the bytes: the callsigns only matter
    for `lsfBytes_eq_spec` -/
theorem lsfFrame_eq (lsf : List Nat) : [0x55, 0xF7] ++ packBits (lsfFrameVals lsf) = Spec.Tx.lsfFrame lsf := by
  unfold lsfFrameVals
  rw [encodeBytes_eq, punct_eq_spec Gen.p1 C01F.p1_pos, C11.gen_p1_eq_spec, channel_eq_spec]
  rfl

/-- **`send_lsf` emits exactly the specification's link setup frame** (sync word and 46 channel bytes) -/
theorem sendLsf_eq_spec (src dst : List Nat) (hsv : ∀ c ∈ src, C17.validChar c = true) (hs1 : 1 ≤ src.length) (hs9 : src.length ≤ 9)
    (hdv : ∀ c ∈ dst, C17.validChar c = true) (hd9 : dst.length ≤ 9) (can : Nat) (hcan : can < 16) :
    sendLsf src dst can = Spec.Tx.lsfFrame (Spec.Tx.lsfBytes dst src (Spec.Tx.voiceType can) (List.replicate 14 0)) := by
  rw [sendLsf, lsfFrame_eq, lsfBytes_eq_spec src dst hsv hs1 hs9 hdv hd9 can hcan]

theorem hi_word (x y : Nat) (hx : x < 256) (hy : y < 256) : ((x <<< 4) ||| ((y >>> 4) &&& 15)) % 65536 = x * 16 + y / 16 := by
  have e : (15 : Nat) = 2 ^ 4 - 1 := by decide
  rw [e, Nat.and_two_pow_sub_one_eq_mod, Nat.shiftRight_eq_div_pow]
  have h1 : y / 2 ^ 4 % 2 ^ 4 < 2 ^ 4 := Nat.mod_lt _ (by decide)
  rw [← Nat.shiftLeft_add_eq_or_of_lt h1, Nat.shiftLeft_eq]
  omega

theorem lo_word (x y : Nat) (hy : y < 256) : (((x &&& 15) <<< 8) ||| y) % 65536 = (x % 16) * 256 + y := by
  have e : (15 : Nat) = 2 ^ 4 - 1 := by decide
  rw [e, Nat.and_two_pow_sub_one_eq_mod]
  have h1 : y < 2 ^ 8 := by omega
  rw [← Nat.shiftLeft_add_eq_or_of_lt h1, Nat.shiftLeft_eq]
  omega

theorem lichSegment_eq_spec (lsf : List Nat) (hl : lsf.length = 30) (hb : Bytes.AllBytes lsf) (n : Nat) (hn : n < 6) :
    lichSegment ((lsf.drop (5 * n)).take 5) n = (Spec.Tx.lichBits lsf n).map toI := by
  obtain ⟨b0, b1, b2, b3, b4, hseg, l0, l1, l2, l3, l4, hlb⟩ := C01F.lichBits_eq lsf hl hb n
  rw [Nat.mod_eq_of_lt hn] at hseg
  rw [Nat.mod_eq_of_lt (by omega : n < 8)] at hlb
  have l5 : n * 32 < 256 := by omega
  have e3 : (n % 256) <<< 5 = n * 32 := by rw [Nat.mod_eq_of_lt (by omega), Nat.shiftLeft_eq]
  rw [hlb, hseg]
  unfold lichSegment
  simp only [List.getD_cons_zero, List.getD_cons_succ]
  rw [hi_word b0 b1 l0 l1, lo_word b1 b2 l2, hi_word b3 b4 l3 l4, e3, lo_word b4 (n * 32) l5,
    C04.encode24_eq_spec _ (by omega), C04.encode24_eq_spec _ (by omega), C04.encode24_eq_spec _ (by omega), C04.encode24_eq_spec _ (by omega)]
  simp only [wordVals_eq, List.map_append, List.append_assoc]

theorem dataFrame_eq_spec (fn : Nat) (payload : List Nat) :
    dataFrame fn payload = (Spec.Tx.punct Spec.p2 (Spec.convEncode (Spec.Tx.bitsOfBytes ([fn / 256 % 256, fn % 256] ++ payload))) 272).map toI := by
  unfold dataFrame
  rw [Spec.Tx.be16_bytes, encodeBytes_eq, punct_eq_spec Gen.p2 C01F.p2_pos, C11.gen_p2_eq_spec]

/-- the stream frame `transmit()` composes is the specification's for any frame-number value (both take its low 16 bits) and any
    payload (both take the low 8 bits of each entry) -/
theorem streamFrame_eq (lsf : List Nat) (hl : lsf.length = 30) (hb : Bytes.AllBytes lsf) (n : Nat) (hn : n < 6)
    (fn : Nat) (payload : List Nat) :
    TxMod.streamFrame lsf n fn payload = Spec.Tx.streamFrame lsf n fn payload := by
  unfold TxMod.streamFrame sendAudioFrame
  rw [lichSegment_eq_spec lsf hl hb n hn, dataFrame_eq_spec fn payload, ← List.map_append, channel_eq_spec]
  rfl

/-- **every stream frame `transmit()` sends is the specification's stream frame**: LICH fragment `n` of the LSF, 16-bit frame number,
    16 payload bytes -/
theorem streamFrame_eq_spec (lsf : List Nat) (hl : lsf.length = 30) (hb : Bytes.AllBytes lsf) (n : Nat) (hn : n < 6)
    (fn : Nat) (hfn : fn < 65536) (payload : List Nat) (hpl : payload.length = 16) (hp : Bytes.AllBytes payload) :
    TxMod.streamFrame lsf n fn payload = Spec.Tx.streamFrame lsf n fn payload :=
  streamFrame_eq lsf hl hb n hn fn payload

theorem bits_of_bytesOfBits (n : Nat) (bits : List Bool) (h : bits.length = 8 * n) : Spec.Tx.bitsOfBytes (Spec.Tx.bytesOfBits bits) = bits :=
  Spec.Tx.bitsOfBytes_bytesOfBits bits (by omega)

/-- **C01 for the second transmitter**: the link setup frame m17-mod emits (model `sendLsf`), received as ANY clean soft image of its 46
    channel bytes, is decoded to exactly the LSF m17-mod built, reported with result OK, and the decoder enters stream mode -/
theorem m17mod_lsf_decodes (lo : Int) (hlo : 1 ≤ lo) (σ : Dec.DState) (cb : Bool) (src dst : List Nat)
    (hsv : ∀ c ∈ src, C17.validChar c = true) (hs1 : 1 ≤ src.length) (hs9 : src.length ≤ 9)
    (hdv : ∀ c ∈ dst, C17.validChar c = true) (hd9 : dst.length ≤ 9) (can : Nat) (hcan : can < 16)
    (frame : List Int) (hr : SoftImage lo (Spec.Tx.bitsOfBytes ((sendLsf src dst can).drop 2)) frame) :
    (Dec.step σ .lsf frame cb).calls = [⟨.lsf, TxMod.lsfBytes src dst can, cleanCost Gen.p1 frame 488⟩] ∧
    (Dec.step σ .lsf frame cb).result = .ok ∧ (Dec.step σ .lsf frame cb).state.mode = .stream := by
  have hb := lsfBytes_eq_spec src dst hsv hs1 hs9 hdv hd9 can hcan
  rw [sendLsf, hb, lsfFrame_eq, lsfFrame_bits] at hr
  rw [hb]
  obtain ⟨hcalls, hres, hmode, -⟩ :=
    C20P.link_report lo hlo σ cb src dst hsv hs1 hs9 hdv hd9 can hcan (List.replicate 14 0) List.length_replicate (Bytes.zeros_bytes 14) frame hr
  exact ⟨hcalls, hres, hmode⟩

/-- … and every stream frame m17-mod emits, received in stream mode as any clean soft image, is delivered with exactly its frame number
    and payload -/
theorem m17mod_stream_decodes (lo : Int) (hlo : 1 ≤ lo) (σ : Dec.DState) (hm : σ.mode = .stream) (cb : Bool)
    (lsf : List Nat) (hl : lsf.length = 30) (hb : Bytes.AllBytes lsf) (n : Nat) (hn : n < 6)
    (fn : Nat) (hfn : fn < 65536) (payload : List Nat) (hpl : payload.length = 16) (hp : Bytes.AllBytes payload)
    (frame : List Int) (hr : SoftImage lo (Spec.Tx.bitsOfBytes ((TxMod.streamFrame lsf n fn payload).drop 2)) frame) :
    (Dec.step σ .stream frame cb).calls.map (fun c => (c.ftype, c.bytes)) = [(.stream, [fn / 256 % 256, fn % 256] ++ payload)] ∧
    (Dec.step σ .stream frame cb).result = .ok := by
  rw [streamFrame_eq lsf hl hb n hn fn payload, streamFrame_bits] at hr
  rw [C01F.stream_roundtrip lo hlo σ hm lsf n _ (by simp [hpl]) (Bytes.allBytes_append.mpr ⟨by simp [Bytes.AllBytes, Nat.mod_lt], hp⟩)
    frame cb hr]
  exact ⟨rfl, rfl⟩

theorem bertData_eq_spec (bs : List Bool) (h : bs.length = 197) : bertData (bs.map toN) = Spec.Tx.bytesOfBits bs := by
  have hl : (bs.drop 192).length = 5 := by rw [List.length_drop, h]
  have hv := bitsVal_lt (bs.drop 192)
  rw [hl] at hv
  unfold bertData Spec.Tx.bytesOfBits
  rw [h, show List.range ((197 + 7) / 8) = List.range 24 ++ [24] from rfl, List.map_append]
  simp only [List.map_cons, List.map_nil, ← List.map_drop, ← List.map_take, List.foldl_map, toN_eq, Nat.reduceMul]
  rw [Spec.Tx.pack_shiftOr bs 24 (by omega)]
  rw [List.take_of_length_le (Nat.le_of_eq hl), List.take_of_length_le (by omega), Spec.Tx.shiftOr_eq _ (by omega), Spec.Tx.byteOfBits_eq_mul,
    Nat.shiftLeft_eq, hl]
  congr 2
  omega

/-- the bits the encoder loop of `make_bert_frame` takes back out of its 25 data bytes are the 197 generator bits -/
theorem bert_input (bs : List Bool) (h : bs.length = 197) :
    ((bertData (bs.map toN)).take 24).flatMap msbBits ++ (msbBits ((bertData (bs.map toN)).getD 24 0)).take 5 = bs.map toN := by
  rw [bertData_eq_spec bs h, flatMap_msb, msbBits_eq, ← List.map_take, ← List.map_append]
  congr 1
  -- 24 whole bytes and five bits of the 25th are the first 192 + 5 bits of the byte string
  rw [Spec.Tx.bitsOfBytes_take, ← chunk_bitsOfBytes _ 24 (by rw [Spec.Tx.bytesOfBits_length, h]; decide), List.take_take, ← List.take_add]
  have := Spec.Tx.take_bitsOfBytes_bytesOfBits bs
  rwa [h] at this

/-- **`make_bert_frame` + the BERT loop of `main()` emit exactly the specification's BERT frame** of the 197 generator bits -/
theorem bertFrame_eq_spec (bs : List Bool) (h : bs.length = 197) : TxMod.bertFrame (bs.map toN) = Spec.Tx.bertFrame bs := by
  unfold TxMod.bertFrame bertFrameVals
  simp only
  rw [bert_input bs h, encBits_flush, punct_eq_spec Gen.p2 C01F.p2_pos, C11.gen_p2_eq_spec, channel_eq_spec]
  rfl

example : sendLsf ("W1AW".toList.map Char.toNat) [] 10 =
    Spec.Tx.lsfFrame (Spec.Tx.lsfBytes [] ("W1AW".toList.map Char.toNat) (Spec.Tx.voiceType 10) (List.replicate 14 0)) :=
  sendLsf_eq_spec _ _ (by decide) (by decide) (by decide) (by simp) (by simp) 10 (by decide)

end M17.C13T
