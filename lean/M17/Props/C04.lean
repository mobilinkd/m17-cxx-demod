/-
C04 — Golay(24,12): corrects every ≤3-bit error, rejects every 4-bit error, never reports success
with data other than that of the unique codeword within distance three; the encoder is systematic,
linear, with minimum distance 8.  All statements hold for every 24-bit received word.
-/
import M17.Lemmas.Golay

namespace M17.C04
open M17.Golay M17.Bits

-- keep the elaborator from unfolding the register loops and the 2048-entry table during unification
attribute [local irreducible] syn lut encode23 encode24 wtN

theorem gen_poly_eq_spec : Gen.golayPoly = Spec.golayPoly := by decide

/-- the generated lookup table is a complete, key-sorted coset-leader table -/
theorem lut_ok : lutOKb = true := lutOKb_true

theorem codeword_of_syn_zero (x : Nat) (hx : x < 2 ^ 23) (hs : syn x = 0) : x >>> 11 < 4096 ∧ x = encode23 (x >>> 11) := by
  have hd : x >>> 11 < 4096 := by rw [Nat.shiftRight_eq_div_pow]; omega
  refine ⟨hd, ?_⟩
  obtain ⟨e2, hlow⟩ := encode23_eq_add _ hd
  -- the difference has zero syndrome and no bit above the low eleven
  have ht : x ^^^ encode23 (x >>> 11) < 2 ^ 11 := by
    have : (x ^^^ encode23 (x >>> 11)) / 2 ^ 11 = 0 := by
      rw [Nat.xor_div_two_pow, ← Nat.shiftRight_eq_div_pow, show encode23 (x >>> 11) / 2 ^ 11 = x >>> 11 by omega,
        Nat.xor_self]
    exact Nat.lt_of_div_eq_zero (by decide) this
  have hst : syn (x ^^^ encode23 (x >>> 11)) = 0 := by rw [syn_lin, hs, syn_encode23 _ hd]; rfl
  exact eq_of_xor_eq_zero (syn_low _ ht hst)

theorem weight_of_syn_zero (x : Nat) (hx : x < 2 ^ 23) (hs : syn x = 0) (hne : x ≠ 0) : 7 ≤ wtN 23 x := by
  obtain ⟨hd, hc⟩ := codeword_of_syn_zero x hx hs
  rw [hc]
  refine encode23_weight _ hd fun h0 => hne ?_
  rw [Nat.shiftRight_eq_div_pow] at h0
  exact syn_low x (by omega) hs

/-- two patterns of weight ≤ 3 with the same syndrome are equal (minimum distance 7) -/
theorem coset_leader_unique (a b : Nat) (ha : a < 2 ^ 23) (hb : b < 2 ^ 23)
    (wa : wtN 23 a ≤ 3) (wb : wtN 23 b ≤ 3) (h : syn a = syn b) : a = b := by
  have hx : a ^^^ b < 2 ^ 23 := Nat.xor_lt_two_pow ha hb
  have hs : syn (a ^^^ b) = 0 := by rw [syn_lin, h, Nat.xor_self]
  have hw : wtN 23 (a ^^^ b) ≤ 6 := by have := wtN_xor_le 23 a b; omega
  by_cases hz : a ^^^ b = 0
  · exact eq_of_xor_eq_zero hz
  · have := weight_of_syn_zero _ hx hs hz; omega

theorem encode23_linear (a b : Nat) (ha : a < 4096) (hb : b < 4096) :
    encode23 (a ^^^ b) = encode23 a ^^^ encode23 b := by
  rw [encode23_eq _ (Nat.xor_lt_two_pow (n := 12) ha hb), encode23_eq _ ha, encode23_eq _ hb, enc_lin]

theorem popcount_eq {n x : Nat} (hn : n ≤ 32) (hx : x < 2 ^ n) : popcount x = wtN n x := by
  unfold popcount
  rw [show 32 = n + (32 - n) by omega, wtN_of_lt n _ x hx]

theorem encode24_eq (d : Nat) (hd : d < 4096) :
    encode24 d = 2 * encode23 d + wtN 23 (encode23 d) % 2 := by
  obtain ⟨e2, hlow⟩ := encode23_eq_add d hd
  unfold encode24 parity
  simp only [popcount_eq (n := 23) (by decide) (show encode23 d < 2 ^ 23 by omega), decide_eq_true_eq]
  rw [shl1_or (by split <;> decide)]
  split <;> omega

theorem wt24_split (e : Nat) : wtN 24 e = e % 2 + wtN 23 (e / 2) := by
  show wtN (23 + 1) e = _
  rw [wtN]

theorem encode24_half (d : Nat) (hd : d < 4096) : encode24 d / 2 = encode23 d := by
  have := encode24_eq d hd
  omega

theorem encode_systematic (d : Nat) (hd : d < 4096) : encode24 d >>> 12 = d ∧ encode24 d < 2 ^ 24 := by
  obtain ⟨e2, hlow⟩ := encode23_eq_add d hd
  have h := encode24_eq d hd
  rw [Nat.shiftRight_eq_div_pow]
  omega

theorem data_xor_low (d x : Nat) (hd : d < 4096) (hx : x < 4096) : (encode24 d ^^^ x) >>> 12 = d := by
  rw [Nat.shiftRight_xor_distrib, (encode_systematic d hd).1, Nat.shiftRight_eq_div_pow, Nat.div_eq_of_lt hx, Nat.xor_zero]

theorem encode24_even (d : Nat) (hd : d < 4096) : wtN 24 (encode24 d) % 2 = 0 := by
  have h := encode24_eq d hd
  have hw := wt24_split (encode24 d)
  rw [encode24_half d hd] at hw
  omega

theorem encode24_weight (d : Nat) (hd : d < 4096) (h0 : d ≠ 0) : 8 ≤ wtN 24 (encode24 d) := by
  have hw := wt24_split (encode24 d)
  have h7 := encode23_weight d hd h0
  have he := encode24_even d hd
  rw [encode24_half d hd] at hw
  -- weight at least 7 on the 23 cyclic bits, and the parity bit makes the total even: at least 8
  omega

theorem encode_linear (a b : Nat) (ha : a < 4096) (hb : b < 4096) :
    encode24 (a ^^^ b) = encode24 a ^^^ encode24 b := by
  rw [encode24_eq _ (Nat.xor_lt_two_pow (n := 12) ha hb), encode24_eq _ ha, encode24_eq _ hb,
    xor_double_add _ _ _ _ (by omega) (by omega), encode23_linear a b ha hb,
    wtN_xor_parity, bit_xor (wtN 23 (encode23 a) % 2) (by omega) (wtN 23 (encode23 b) % 2) (by omega)]
  omega

theorem min_distance_8 (a b : Nat) (ha : a < 4096) (hb : b < 4096) (hne : a ≠ b) :
    8 ≤ wtN 24 (encode24 a ^^^ encode24 b) := by
  rw [← encode_linear a b ha hb]
  exact encode24_weight _ (Nat.xor_lt_two_pow (n := 12) ha hb) fun h => hne (eq_of_xor_eq_zero h)

/-- the encoder is the specification's generator matrix: both are linear, so twelve rows decide -/
theorem encode24_eq_spec (d : Nat) (hd : d < 4096) : encode24 d = Spec.golay24 d := by
  have hsys := (encode_systematic d hd).1
  have hlow := lin_ext (f := fun d => encode24 (d % 2 ^ 12) % 2 ^ 12) (g := Spec.golayCheck)
    (fun a b => by
      rw [Nat.xor_mod_two_pow, encode_linear _ _ (Nat.mod_lt _ (by decide)) (Nat.mod_lt _ (by decide)), Nat.xor_mod_two_pow])
    (fun a b => by unfold Spec.golayCheck; rw [← foldl_testBit_lin]; rfl) 12 (by decide +kernel) d hd
  simp only [Nat.mod_eq_of_lt hd] at hlow
  unfold Spec.golay24
  rw [Nat.mod_eq_of_lt hd, ← hlow, ← Nat.shiftLeft_add_eq_or_of_lt (Nat.mod_lt _ (by decide)), Nat.shiftLeft_eq]
  rw [Nat.shiftRight_eq_div_pow] at hsys
  omega

theorem close_unique (r d d' : Nat) (hd : d < 4096) (hd' : d' < 4096)
    (h : wtN 24 (r ^^^ encode24 d) + wtN 24 (r ^^^ encode24 d') < 8) : d = d' := by
  have := wtN_xor_le 24 (r ^^^ encode24 d) (r ^^^ encode24 d')
  rw [xor_cancel_left] at this
  exact Decidable.by_contra fun hne => by have := min_distance_8 d d' hd hd' hne; omega

theorem lut_entry (i : Nat) (hi : i < 2048) :
    ∃ p, lut[i]? = some (i <<< 12, p) ∧ syn p = i ∧ wtN 23 p ≤ 3 ∧ p < 2 ^ 23 := by
  have h := lut_ok
  unfold lutOKb at h
  simp only [Bool.and_eq_true, beq_iff_eq, List.all_eq_true, decide_eq_true_eq] at h
  obtain ⟨hlen, hall⟩ := h
  generalize lut = l at hlen hall ⊢
  have he : l[i]? = some l[i] := List.getElem?_eq_getElem (by omega)
  obtain ⟨⟨⟨h1, h2⟩, h3⟩, h4⟩ := hall (l[i], i) (List.mem_zipIdx_iff_getElem?.mpr he)
  exact ⟨l[i].2, by rw [he, ← h1], h2, h3, h4⟩

theorem lookups (x : Nat) (hx : x < 2 ^ 23) :
    ∃ p, lowerBound lut (syndrome x) = some (syndrome x, p) ∧ lutArr.getD (syndrome x >>> 12) (0, 0) = (syndrome x, p) ∧
      p < 2 ^ 23 ∧ wtN 23 p ≤ 3 ∧ syn p = syn x := by
  have hs : syn x < 2048 := syn_lt x hx
  have hsyn : syndrome x = syn x <<< 12 := by
    unfold syndrome; rw [Nat.mod_eq_of_lt (by omega)]
  obtain ⟨p, hget, hp1, hp2, hp3⟩ := lut_entry (syn x) hs
  obtain ⟨hlt, heq⟩ := List.getElem?_eq_some_iff.mp hget
  refine ⟨p, ?_, ?_, hp3, hp2, hp1⟩
  · rw [hsyn]
    unfold lowerBound
    rw [List.find?_eq_some_iff_getElem]
    refine ⟨by simp, syn x, hlt, heq, ?_⟩
    intro j hj
    obtain ⟨q, hq, -⟩ := lut_entry j (by omega)
    obtain ⟨hjl, hje⟩ := List.getElem?_eq_some_iff.mp hq
    rw [hje]
    simp only [Bool.not_eq_eq_eq_not, Bool.not_true, decide_eq_false_iff_not, Nat.not_lt]
    rw [Nat.shiftLeft_eq, Nat.shiftLeft_eq]
    omega
  · rw [hsyn, Nat.shiftLeft_shiftRight]
    unfold lutArr
    simp [Array.getD, hlt, heq]

/-- the table lookup of `decode`: for every 23-bit word the `lower_bound` lands on the entry whose key
    is exactly the syndrome, and that entry is a pattern of weight ≤ 3 in the same coset -/
theorem lookup (x : Nat) (hx : x < 2 ^ 23) :
    ∃ p, lowerBound lut (syndrome x) = some (syndrome x, p) ∧ p < 2 ^ 23 ∧ wtN 23 p ≤ 3 ∧ syn p = syn x := by
  obtain ⟨p, h, -, h'⟩ := lookups x hx
  exact ⟨p, h, h'⟩

/-- the direct-indexed decoder used by the compiled driver is the modelled decoder (24-bit words) -/
theorem decodeFast_eq (r : Nat) (hr : r < 2 ^ 24) : decodeFast r = decode r := by
  obtain ⟨p, h1, h2, -⟩ := lookups (r >>> 1) (by rw [shr1]; omega)
  -- by the equation lemmas: after `unfold` the kernel is left a conversion in which it evaluates `lutArr.size`
  rw [decodeFast, decode, decodeWith, h1, h2]


theorem decode_eq (r : Nat) (hr : r < 2 ^ 24) :
    ∃ p, p < 2 ^ 23 ∧ wtN 23 p ≤ 3 ∧ syn p = syn (r / 2) ∧
      decode r = if wtN 23 p < 3 ∨ wtN 24 (r ^^^ (2 * p)) % 2 = 0 then some (r ^^^ (2 * p)) else none := by
  obtain ⟨p, hl, hp3, hp2, hp1⟩ := lookup (r >>> 1) (by rw [shr1]; omega)
  rw [shr1] at hp1
  refine ⟨p, hp3, hp2, hp1, ?_⟩
  unfold decode decodeWith parity
  simp only [hl, if_true]
  rw [shl1, popcount_eq (n := 24) (by decide) (show 2 * p < 2 ^ 24 by omega),
    popcount_eq (n := 24) (by decide) (Nat.xor_lt_two_pow hr (show 2 * p < 2 ^ 24 by omega)),
    show wtN 24 (2 * p) = wtN 23 p by simpa using wtN_succ_double 23 p 0 (by decide)]
  simp only [Bool.or_eq_true, decide_eq_true_eq, Bool.not_eq_true', decide_eq_false_iff_not,
    show ∀ w, (¬ w % 2 = 1) ↔ w % 2 = 0 by omega]

/-- an error whose 23 cyclic positions hold at most three flips: `decode` finds exactly those and then accepts iff the
    whole error, parity position included, has weight ≤ 3 -/
theorem decode_coset (d e : Nat) (hd : d < 4096) (he : e < 2 ^ 24) (hw : wtN 23 (e / 2) ≤ 3) :
    decode (encode24 d ^^^ e) = if wtN 24 e ≤ 3 then some (encode24 d ^^^ e % 2) else none := by
  obtain ⟨p, hp3, hp2, hp1, hdec⟩ := decode_eq _ (Nat.xor_lt_two_pow (encode_systematic d hd).2 he)
  -- the syndrome of the received word is that of the error, so the table returns the error itself
  obtain rfl : p = e / 2 := coset_leader_unique p (e / 2) hp3 (by omega) hp2 hw
    (by rw [hp1, Nat.xor_div_two, encode24_half d hd, syn_lin, syn_encode23 d hd, Nat.zero_xor])
  have hpar : wtN 24 (encode24 d ^^^ e % 2) % 2 = e % 2 := by
    have := wt24_split (e % 2)
    have heven := encode24_even d hd
    rw [Nat.div_eq_of_lt (by omega), wtN_zero] at this
    rw [wtN_xor_parity]; omega
  have hwe := wt24_split e
  rw [hdec, Nat.xor_assoc, xor_clear_low, hpar]
  simp only [show (wtN 23 (e / 2) < 3 ∨ e % 2 = 0) ↔ wtN 24 e ≤ 3 by omega]

/-- **corrects every error pattern of weight ≤ 3** (any of the 24 positions, parity bit included) -/
theorem decode_corrects (d e : Nat) (hd : d < 4096) (he : e < 2 ^ 24) (hw : wtN 24 e ≤ 3) :
    ∃ o, decode (encode24 d ^^^ e) = some o ∧ o >>> 12 = d := by
  have hwe := wt24_split e
  exact ⟨_, by rw [decode_coset d e hd he (by omega), if_pos hw], data_xor_low d _ hd (by omega)⟩

/-- the code is perfect: every word is a codeword plus an error with at most three flips in the 23 cyclic positions -/
theorem nearest_codeword (r : Nat) (hr : r < 2 ^ 24) : ∃ d, d < 4096 ∧ wtN 23 ((r ^^^ encode24 d) / 2) ≤ 3 := by
  obtain ⟨p, -, hp3, hp2, hp1⟩ := lookup (r >>> 1) (by rw [shr1]; omega)
  rw [shr1] at hp1
  have hlt : r / 2 ^^^ p < 2 ^ 23 := Nat.xor_lt_two_pow (by omega) hp3
  obtain ⟨hd, hc⟩ := codeword_of_syn_zero _ hlt (by rw [syn_lin, hp1, Nat.xor_self])
  refine ⟨_, hd, ?_⟩
  rw [Nat.xor_div_two, encode24_half _ hd, ← hc, xor_xor_self]
  exact hp2


/-- **never reports success with data other than that of the unique codeword within distance 3** -/
theorem decode_sound (r o : Nat) (hr : r < 2 ^ 24) (h : decode r = some o) :
    o >>> 12 < 4096 ∧ wtN 24 (r ^^^ encode24 (o >>> 12)) ≤ 3 ∧
    ∀ d', d' < 4096 → wtN 24 (r ^^^ encode24 d') ≤ 3 → d' = o >>> 12 := by
  obtain ⟨d, hd, hw⟩ := nearest_codeword r hr
  have he : r ^^^ encode24 d < 2 ^ 24 := Nat.xor_lt_two_pow hr (encode_systematic d hd).2
  have hre : r = encode24 d ^^^ (r ^^^ encode24 d) := by rw [Nat.xor_comm r, xor_xor_self]
  rw [hre, decode_coset d _ hd he hw] at h
  split at h
  case isFalse => exact absurd h (by simp)
  case isTrue h3 =>
  have ho : o >>> 12 = d := by rw [← Option.some.inj h]; exact data_xor_low d _ hd (by omega)
  rw [ho]
  exact ⟨hd, h3, fun d' hd' hw' => close_unique r d' d hd' hd (by omega)⟩

/-- **rejects every error pattern of weight exactly 4**: an accepted word lies within 3 of a codeword, which is then
    within 7 of the one sent -/
theorem decode_rejects4 (d e : Nat) (hd : d < 4096) (he : e < 2 ^ 24) (hw : wtN 24 e = 4) :
    decode (encode24 d ^^^ e) = none := by
  cases h : decode (encode24 d ^^^ e) with
  | none => rfl
  | some o =>
    obtain ⟨hd', h3, -⟩ := decode_sound _ o (Nat.xor_lt_two_pow (encode_systematic d hd).2 he) h
    have hre : encode24 d ^^^ e ^^^ encode24 d = e := by rw [Nat.xor_comm, xor_xor_self]
    have := close_unique (encode24 d ^^^ e) d (o >>> 12) hd hd' (by rw [hre]; omega)
    rw [← this, hre] at h3
    omega

-- the hypotheses are met by concrete, non-trivial cases (kernel evaluation of the model itself)
example : decode (encode24 0xABC ^^^ 0b11) = some (encode24 0xABC ^^^ 1) := by decide +kernel
example : decode (encode24 0x5A5 ^^^ 0x800401) = some (encode24 0x5A5 ^^^ 1) := by decide +kernel
example : decode (encode24 0x123 ^^^ 0x00F000) = none := by decide +kernel

/-- The acceptance rule of the tree as pinned (weight of the *syndrome* below 3) — kept to document the
    defect the repair removed: it rejects a 2-bit error that includes the overall-parity bit. -/
def decodePinned (input : Nat) : Option Nat :=
  let s := syndrome (input >>> 1)
  match lowerBound lut s with
  | none => none
  | some (key, pat) =>
    if key = s then
      let output := input ^^^ (pat <<< 1)
      if popcount s < 3 || !parity output then some output else none
    else none

theorem pinned_rule_refuted : ∃ d e, d < 4096 ∧ e < 2 ^ 24 ∧ wtN 24 e ≤ 3 ∧ decodePinned (encode24 d ^^^ e) = none :=
  ⟨5, 3, by decide, by decide, by decide +kernel, by decide +kernel⟩

end M17.C04
