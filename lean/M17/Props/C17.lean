/-
C17 — callsign codec: lossless for valid callsigns, terminated for any address.
-/
import M17.Model.Callsign

namespace M17.C17
open M17.Call

/-- the decode table of the current header is the M17 alphabet (digit 0 is never produced for a valid callsign) -/
theorem gen_alphabet : Gen.callAlphabet.drop 1 = "ABCDEFGHIJKLMNOPQRSTUVWXYZ0123456789-/.".toList.map Char.toNat := by decide +kernel
theorem gen_broadcast : Gen.callBroadcast = "BROADCAST".toList.map Char.toNat ++ [0] ∧ Gen.callBroadcastAddr = List.replicate 6 255
    ∧ Gen.callLen = 10 := by decide

/-- the M17 callsign alphabet: A–Z, 0–9, '-', '/', '.' -/
def validChar (c : Nat) : Bool :=
  (65 ≤ c && c ≤ 90) || (48 ≤ c && c ≤ 57) || c == 45 || c == 47 || c == 46

theorem validChar_iff (c : Nat) : validChar c = true ↔ (65 ≤ c ∧ c ≤ 90) ∨ (48 ≤ c ∧ c ≤ 57) ∨ c = 45 ∨ c = 47 ∨ c = 46 := by
  simp [validChar, or_assoc]

theorem charVal_spec (c : Nat) : charVal c ≤ 39 ∧ (validChar c = true ↔ charVal c ≠ 0) := by
  rw [validChar_iff]
  fun_cases charVal c <;> omega

theorem charVal_le (c : Nat) : charVal c ≤ 39 := (charVal_spec c).1

theorem charTable : ∀ c, c < 128 → validChar c = true → valChar (charVal c) = c := by decide +kernel

theorem charVal_pos {c : Nat} (h : validChar c = true) : 1 ≤ charVal c :=
  Nat.pos_of_ne_zero ((charVal_spec c).2.mp h)

theorem valChar_charVal {c : Nat} (h : validChar c = true) : valChar (charVal c) = c := by
  have hc := (validChar_iff c).mp h
  exact charTable c (by omega) h

theorem valid_ne_zero {c : Nat} (h : validChar c = true) : c ≠ 0 := by
  have hc := (validChar_iff c).mp h
  omega

/-- strict mode accepts exactly the arrays made of alphabet characters only, and then returns the non-strict result -/
theorem encodeStrict_spec (call a : List Nat) :
    encodeStrict call = some a ↔ (∀ c ∈ call, validChar c = true) ∧ a = encode call := by
  have hall : call.all (fun c => charVal c != 0) = true ↔ ∀ c ∈ call, validChar c = true := by
    simp only [List.all_eq_true, bne_iff_ne, (charVal_spec _).2]
  unfold encodeStrict
  by_cases h : ∀ c ∈ call, validChar c = true
  · rw [if_pos (hall.mpr h)]
    exact ⟨fun e => ⟨h, (Option.some.inj e).symm⟩, fun e => e.2 ▸ rfl⟩
  · rw [if_neg fun h' => h (hall.mp h')]
    exact ⟨nofun, fun e => absurd e.1 h⟩

theorem valChar_ne_zero : ∀ d, d < 40 → valChar d ≠ 0 := by decide +kernel

/-- value of little-endian base-40 digits -/
def horner : List Nat → Nat
  | [] => 0
  | d :: ds => d + 40 * horner ds

theorem horner_lt (ds : List Nat) (h : ∀ d ∈ ds, d ≤ 39) : horner ds < 40 ^ ds.length := by
  induction ds with
  | nil => simp [horner]
  | cons d ds ih =>
    have h1 := ih (fun x hx => h x (List.mem_cons_of_mem _ hx))
    have h2 := h d (List.mem_cons_self)
    simp only [horner, List.length_cons, Nat.pow_succ]
    omega

theorem horner_append_zeros (ds : List Nat) (k : Nat) : horner (ds ++ List.replicate k 0) = horner ds := by
  induction ds with
  | nil =>
    induction k with
    | zero => rfl
    | succ k ih => simp only [List.nil_append] at ih ⊢; rw [List.replicate_succ]; simp [horner, ih]
  | cons d ds ih => simp only [List.cons_append, horner, ih]

theorem value_lt (cs : List Nat) (h9 : cs.length ≤ 9) : horner (cs.map charVal) < 40 ^ 9 :=
  Nat.lt_of_lt_of_le (horner_lt _ fun d hd => by obtain ⟨x, -, rfl⟩ := List.mem_map.mp hd; exact charVal_le x)
    (Nat.pow_le_pow_right (by decide) (by simpa using h9))

/-- the accumulation loop of `encode_callsign` over the reversed array is Horner's rule: the `uint64_t` cannot wrap for at
    most 10 characters (40^10 < 2^64) -/
theorem encode_value (call : List Nat) (hlen : call.length ≤ 10) :
    call.reverse.foldl (fun acc c => (acc * 40 + charVal c) % 2 ^ 64) 0 = horner (call.map charVal) := by
  rw [List.foldl_reverse]
  induction call with
  | nil => rfl
  | cons c cs ih =>
    have hl : cs.length ≤ 9 := Nat.le_of_succ_le_succ hlen
    have hb := value_lt cs hl
    have hc := charVal_le c
    simp only [List.foldr, List.map, horner]
    rw [ih (by omega), Nat.mod_eq_of_lt (by omega)]
    omega

theorem encode_pad (cs : List Nat) (h : cs.length ≤ 10) : encode (pad cs) = toBytes (horner (cs.map charVal)) := by
  unfold encode
  rw [encode_value _ (by unfold pad; simp; omega)]
  unfold pad
  rw [List.map_append, List.map_replicate, show charVal 0 = 0 from rfl, horner_append_zeros]

theorem bytes_roundtrip (v : Nat) (hv : v < 2 ^ 48) : fromBytes (toBytes v) = v := by
  have e (k : Nat) : v / 2 ^ (k + 8) = v / 2 ^ k / 256 := by rw [Nat.pow_add, Nat.div_div_eq_div_mul]
  unfold fromBytes toBytes
  simp only [List.getD_cons_zero, List.getD_cons_succ]
  -- `omega` is slow on divisions by `2 ^ 40`: write them as successive divisions by 256
  rw [e 32, e 24, e 16, e 8, e 0, Nat.pow_zero, Nat.div_one]
  omega

/-- the broadcast address is `2 ^ 48 - 1`, above every callsign value -/
theorem toBytes_ne_broadcast (v : Nat) (hv : v < 40 ^ 9) : toBytes v ≠ Gen.callBroadcastAddr := by
  intro hb
  have h := bytes_roundtrip v (Nat.lt_trans hv (by decide))
  rw [hb, show fromBytes Gen.callBroadcastAddr = 2 ^ 48 - 1 by decide] at h
  omega

theorem digits_of_horner (ds : List Nat) (h : ∀ d ∈ ds, 1 ≤ d ∧ d ≤ 39) (fuel : Nat) (hf : ds.length ≤ fuel) :
    digitsGo fuel (horner ds) = ds.map valChar := by
  induction ds generalizing fuel with
  | nil => cases fuel <;> simp [digitsGo, horner]
  | cons d ds ih =>
    cases fuel with
    | zero => simp at hf
    | succ fuel =>
      have hd := h d List.mem_cons_self
      -- the lowest digit is not zero: the loop goes on, takes it and leaves the value of the other digits
      rw [horner, digitsGo, if_neg (by omega), show (d + 40 * horner ds) % 40 = d by omega,
        show (d + 40 * horner ds) / 40 = horner ds by omega, ih (fun x hx => h x (List.mem_cons_of_mem _ hx)) fuel (by simpa using hf)]
      rfl

/-- **encoding a valid callsign of 1–9 characters and decoding it returns the same `call_t`** -/
theorem roundtrip (cs : List Nat) (hv : ∀ c ∈ cs, validChar c = true) (h1 : 1 ≤ cs.length) (h9 : cs.length ≤ 9) :
    decode (encode (pad cs)) = pad cs ∧ cString (decode (encode (pad cs))) = cs := by
  have hdec : decode (encode (pad cs)) = pad cs := by
    have hlt := value_lt cs h9
    rw [encode_pad cs (by omega)]
    unfold decode
    rw [if_neg (toBytes_ne_broadcast _ hlt), bytes_roundtrip _ (Nat.lt_trans hlt (by decide)),
      digits_of_horner _ (fun d hd => by
        obtain ⟨x, hx, rfl⟩ := List.mem_map.mp hd
        exact ⟨charVal_pos (hv x hx), charVal_le x⟩) 9 (by simpa using h9),
      List.map_map, List.map_congr_left (f := valChar ∘ charVal) (g := id) fun c hc => valChar_charVal (hv c hc), List.map_id]
    rfl
  refine ⟨hdec, ?_⟩
  rw [hdec]
  unfold cString pad
  rw [List.takeWhile_append_of_pos fun c hc => by simpa using valid_ne_zero (hv c hc),
    (by omega : 10 - cs.length = (10 - cs.length - 1) + 1), List.replicate_succ]
  simp

/-- **distinct callsigns get distinct addresses** -/
theorem encode_injective (a b : List Nat) (ha : ∀ c ∈ a, validChar c = true) (hb : ∀ c ∈ b, validChar c = true)
    (ha1 : 1 ≤ a.length) (ha9 : a.length ≤ 9) (hb1 : 1 ≤ b.length) (hb9 : b.length ≤ 9)
    (h : encode (pad a) = encode (pad b)) : a = b := by
  have h1 := (roundtrip a ha ha1 ha9).2
  have h2 := (roundtrip b hb hb1 hb9).2
  rw [h] at h1
  rw [← h1, h2]

/-- **the all-ones address decodes to BROADCAST** -/
theorem decode_broadcast : decode (List.replicate 6 255) = "BROADCAST".toList.map Char.toNat ++ [0] := by decide +kernel

/-- a valid callsign never encodes to the broadcast address -/
theorem encode_valid_ne_broadcast (cs : List Nat) (hv : ∀ c ∈ cs, validChar c = true) (h1 : 1 ≤ cs.length)
    (h9 : cs.length ≤ 9) : encode (pad cs) ≠ List.replicate 6 255 := by
  obtain ⟨-, haddr, -⟩ := gen_broadcast
  rw [encode_pad cs (by omega), ← haddr]
  exact toBytes_ne_broadcast _ (value_lt cs h9)

theorem digitsGo_length (fuel v : Nat) : (digitsGo fuel v).length ≤ fuel := by
  fun_induction digitsGo fuel v with
  | case1 => simp
  | case2 => simp
  | case3 _ _ _ ih => simp; omega

theorem digitsGo_ne_zero (fuel v : Nat) : ∀ c ∈ digitsGo fuel v, c ≠ 0 := by
  fun_induction digitsGo fuel v with
  | case1 => simp
  | case2 => simp
  | case3 _ v _ ih =>
    intro c hc
    rcases List.mem_cons.mp hc with rfl | hc
    · exact valChar_ne_zero _ (Nat.mod_lt _ (by decide))
    · exact ih c hc

theorem decode_shape (addr : List Nat) : ∃ ds, ds.length ≤ 9 ∧ (∀ c ∈ ds, c ≠ 0) ∧ decode addr = pad ds := by
  unfold decode
  split
  · exact ⟨"BROADCAST".toList.map Char.toNat, by decide, by decide, gen_broadcast.1⟩
  · exact ⟨_, digitsGo_length 9 _, digitsGo_ne_zero 9 _, rfl⟩

theorem pad_length (cs : List Nat) (h : cs.length ≤ 10) : (pad cs).length = 10 := by
  unfold pad
  rw [List.length_append, List.length_replicate]
  omega

theorem pad_getD_zero (cs : List Nat) {n : Nat} (h1 : cs.length ≤ n) (h2 : n ≤ 9) : (pad cs).getD n 1 = 0 := by
  unfold pad
  rw [List.getD_eq_getElem?_getD, List.getElem?_append_right h1, List.getElem?_replicate, if_pos (by omega)]
  rfl

theorem pad_getD_lt (cs : List Nat) {i : Nat} (hi : i < cs.length) : (pad cs).getD i 0 = cs[i] := by
  unfold pad
  rw [List.getD_eq_getElem?_getD, List.getElem?_append_left hi, List.getElem?_eq_getElem hi, Option.getD_some]

/-- **decoding any address yields a NUL-terminated string of at most 9 characters in the 10-byte array** -/
theorem decode_terminated (addr : List Nat) :
    (decode addr).length = 10 ∧
    ∃ n, n ≤ 9 ∧ (decode addr).getD n 1 = 0 ∧ ∀ i, i < n → (decode addr).getD i 0 ≠ 0 := by
  obtain ⟨ds, hl, hnz, hd⟩ := decode_shape addr
  rw [hd]
  refine ⟨pad_length ds (by omega), ds.length, hl, pad_getD_zero ds (Nat.le_refl _) hl, fun i hi => ?_⟩
  rw [pad_getD_lt ds hi]
  exact hnz _ (List.getElem_mem hi)

/-- the unbounded loop fills all ten characters for the address 40^9 = 0xEE6B28000000: no terminator -/
theorem pinned_decode_unterminated : ∀ c ∈ decodePinned [0xEE, 0x6B, 0x28, 0x00, 0x00, 0x00], c ≠ 0 := by decide +kernel

example : decode (encode (pad ("W1AW".toList.map Char.toNat))) = pad ("W1AW".toList.map Char.toNat) := by decide +kernel
example : validChar 65 = true ∧ validChar 46 = true ∧ validChar 32 = false := by decide

end M17.C17
