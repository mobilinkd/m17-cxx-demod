/-
C18 — the generator is 511-periodic FOR EVER: not only does the register return to its start after 511
steps (`C18.period_511`, kernel evaluation of one period), but every output index `n`, however large, repeats the
bit at `n mod 511`, every run of `511·k` bits is `k` copies of the same period and holds exactly `256·k` ones, and this
holds from every register value on the orbit (every phase of the sequence).
-/
import M17.Props.C18

namespace M17.C18P
open M17.Prbs M17.C18

theorem getLastD_genStates : ∀ (n g d : Nat), (genStates (n + 1) g).getLastD d = genState (n + 1) g
  | 0, _, _ => rfl
  | n+1, g, _ => getLastD_genStates n (shiftIn g (fb g)) (shiftIn g (fb g))

-- both are conjuncts of the one evaluation of the orbit, `C18.period_511`
theorem return_511 : genState 511 1 = 1 := by
  have h := period_511
  simp only [orbitOK, Bool.and_eq_true, beq_iff_eq] at h
  obtain ⟨⟨⟨hlast, -⟩, -⟩, -⟩ := h
  rw [← getLastD_genStates 510 1 0]; exact hlast

theorem ones_511 : (genBits 511 1).count true = 256 := by
  have h := period_511
  simp only [orbitOK, Bool.and_eq_true, beq_iff_eq] at h
  exact h.2

theorem genState_periods (k : Nat) : genState (511 * k) 1 = 1 := by
  induction k with
  | zero => rfl
  | succ k ih => rw [Nat.mul_succ, genState_add, ih, return_511]

theorem genBits_periods (k : Nat) : genBits (511 * k) 1 = (List.replicate k (genBits 511 1)).flatten := by
  induction k with
  | zero => rfl
  | succ k ih =>
    rw [Nat.mul_succ, genBits_add, ih, genState_periods, List.replicate_succ']
    simp

theorem ones_periods (k : Nat) : (genBits (511 * k) 1).count true = 256 * k := by
  induction k with
  | zero => rfl
  | succ k ih => rw [Nat.mul_succ, genBits_add, List.count_append, ih, genState_periods, ones_511, Nat.mul_succ]

theorem return_511_any_phase (p : Nat) : genState 511 (genState p 1) = genState p 1 := by
  rw [← genState_add, Nat.add_comm, genState_add, return_511]

theorem genBits_getD : ∀ {n m g : Nat}, n < m → (genBits m g).getD n false = fb (genState n g)
  | _, 0, _, h => by omega
  | 0, _+1, _, _ => rfl
  | n+1, m+1, _, h => genBits_getD (n := n) (m := m) (by omega)

theorem bit_periodic_of_return (g : Nat) (hg : genState 511 g = g) (n m : Nat) (h : n + 511 < m) :
    (genBits m g).getD (n + 511) false = (genBits m g).getD n false := by
  rw [genBits_getD (by omega), genBits_getD (by omega), Nat.add_comm, genState_add, hg]

/-- every output index repeats with period 511 (stated on prefixes: the bit at index `n + 511` of any long enough
    run equals the bit at index `n`) -/
theorem bit_periodic (n m : Nat) (h : n + 511 < m) :
    (genBits m 1).getD (n + 511) false = (genBits m 1).getD n false :=
  bit_periodic_of_return 1 return_511 n m h

/-- the same from every phase of the sequence (the register reached after any number `p` of steps) -/
theorem bit_periodic_any_phase (p n m : Nat) (h : n + 511 < m) :
    (genBits m (genState p 1)).getD (n + 511) false = (genBits m (genState p 1)).getD n false :=
  bit_periodic_of_return _ (return_511_any_phase p) n m h

example : genBits 9 1 = (genBits 520 1).drop 511 := by decide +kernel

end M17.C18P
