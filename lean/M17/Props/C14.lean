/-
C14 — M17Modulator emits a complete, well-formed stream for every key-up: preamble, LSF, audio frames numbered
0,1,2,… with LICH segments cycling 0..5, a final frame with the end-of-stream bit, and ends idle.
-/
import M17.Model.Modulator
import M17.Lemmas.Tx

namespace M17.C14
open M17.Modulator

theorem samples_succ (n : Nat) (m : M) : samples (n + 1) m = onSample (samples n m) := rfl

/-- audio received while idle is discarded and changes nothing -/
theorem idle_discards_audio (m : M) (h : m.st = .idle) (n : Nat) : samples n m = m := by
  induction n with
  | zero => rfl
  | succ n ih => rw [samples_succ, ih]; unfold onSample; simp [h]

/-- the audio frames sent while ACTIVE after `j` samples -/
def audioFrames (j : Nat) : List Item := (List.range (j / 320)).map fun k => Item.audio (k % 0x8000) (k % 6) 320

theorem active_eq (base : List Item) (j : Nat) :
    samples j ⟨.active, 0, 0, 0, base⟩ = ⟨.active, j % 320, j / 320 % 0x8000, j / 320 % 6, base ++ audioFrames j⟩ := by
  induction j with
  | zero => simp [samples, audioFrames]
  | succ j ih =>
    rw [samples_succ, ih]
    unfold onSample audioFrames
    simp only
    by_cases hc : j % 320 + 1 = 320
    · rw [if_pos hc, Spec.Tx.next_fn, Spec.Tx.next_lich, (by omega : (j + 1) / 320 = j / 320 + 1), (by omega : (j + 1) % 320 = 0),
        List.range_succ, List.map_append, List.append_assoc]
      rfl
    · rw [if_neg hc, (by omega : (j + 1) / 320 = j / 320), (by omega : (j + 1) % 320 = j % 320 + 1)]

/-- invariant of the ACTIVE phase after `j` samples -/
theorem active_phase (base : List Item) (j : Nat) (m : M)
    (h : m.st = .active ∧ m.index = 0 ∧ m.fn = 0 ∧ m.lich = 0 ∧ m.out = base) :
    (samples j m).st = .active ∧ (samples j m).index = j % 320 ∧ (samples j m).fn = (j / 320) % 0x8000 ∧
    (samples j m).lich = (j / 320) % 6 ∧ (samples j m).out = base ++ audioFrames j := by
  obtain ⟨st, i, f, l, o⟩ := m
  obtain ⟨rfl, rfl, rfl, rfl, rfl⟩ := h
  rw [active_eq]
  exact ⟨rfl, rfl, rfl, rfl, rfl⟩

theorem eos_bit (fn : Nat) (h : fn < 0x8000) : (fn ||| 0x8000) % 65536 = fn + 0x8000 := Spec.Tx.eos_bit fn h

/-- one key-up: `ptt_on`, the two samples that trigger preamble and link setup, `n` audio samples, `ptt_off`, one more sample -/
def keyup (n : Nat) (m : M) : M := onSample (pttOff (samples n (onSample (onSample (pttOn m)))))

theorem keyup_eq (m : M) (h : m.st = .idle) (n : Nat) :
    keyup n m = ⟨.idle, n % 320, (n / 320 % 0x8000 + 1) % 65536, n / 320 % 6 + 1,
      m.out ++ [Item.preamble, Item.lsf] ++ audioFrames n ++ [Item.audio ((n / 320) % 0x8000 + 0x8000) ((n / 320) % 6) (n % 320 + 1)]⟩ := by
  obtain ⟨st, i, f, l, o⟩ := m
  subst h
  unfold keyup
  rw [show onSample (onSample (pttOn ⟨.idle, i, f, l, o⟩)) = ⟨.active, 0, 0, 0, o ++ [.preamble] ++ [.lsf]⟩ from rfl, active_eq]
  simp only [pttOff, onSample, if_true, eos_bit _ (Nat.mod_lt _ (by decide : 0 < 0x8000)), List.append_assoc, List.cons_append, List.nil_append]

/-- **every key-up, for every amount of audio**: from IDLE the modulator emits exactly the preamble, the LSF frame, one
    audio frame per complete 320-sample block numbered 0,1,2,… (mod 0x8000) with LICH segments cycling 0..5, then one
    frame with the end-of-stream bit carrying the remaining samples; nothing else -/
theorem keyup_output (m : M) (h : m.st = .idle) (n : Nat) :
    (keyup n m).out = m.out ++ [Item.preamble, Item.lsf] ++ audioFrames n ++
      [Item.audio ((n / 320) % 0x8000 + 0x8000) ((n / 320) % 6) (n % 320 + 1)] := by
  rw [keyup_eq m h n]

/-- **the modulator ends idle** (and a further key-up starts again from frame number 0, LICH 0 — set in LINK_SETUP) -/
theorem keyup_ends_idle (m : M) (h : m.st = .idle) (n : Nat) : (keyup n m).st = .idle := by
  rw [keyup_eq m h n]

/-- the LICH segment index used for every frame is below 6 (array bound of `lich`) -/
theorem lich_index_in_range (n k : Nat) : (k % 6) < 6 ∧ ((n / 320) % 6) < 6 := ⟨Nat.mod_lt _ (by decide), Nat.mod_lt _ (by decide)⟩

example : (keyup 700 { st := .idle, index := 0, fn := 0, lich := 0, out := [] }).out =
    [.preamble, .lsf, .audio 0 0 320, .audio 1 1 320, .audio 32770 2 61] := by decide +kernel

end M17.C14
