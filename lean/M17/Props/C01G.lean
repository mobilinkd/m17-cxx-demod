/-
C01 — the reported cost of a clean frame, as an explicit function of the received soft values:
cost = round( Σ over the 368 (stream: the 272 payload) received values of (7 − |r|) / 7 ).
(`C01F` states the cost as `round(slack/7)` with `slack` defined on the de-punctured block; here `slack` is shown to be that sum: de-puncturing
places every received value exactly once, de-interleaving is a permutation, de-randomizing only flips signs.)
-/
import M17.Props.C01F

namespace M17.C01G
open M17.Vit M17.C01 M17.Cond M17.Punct M17.C01F

def sumB (xs : List Int) : Nat := (xs.map (base1 7)).sum

theorem sum_depuncture (p : List Nat) : ∀ (n pi : Nat) (xs : List Int),
    sumB (depunctureGo p pi xs n) = sumB (xs.take (C11.rank p pi n)) := C11.sum_depunctureGo p (base1 7) rfl

theorem sum_deinterleave (xs : List Int) (h : xs.length = 368) : sumB (deinterleaveSoft xs) = sumB xs := by
  have e : xs = (List.range 368).map (fun i => xs.getD i 0) :=
    Lists.list_ext_getD 0 368 h (by simp) fun i hi => by simp [List.getD_eq_getElem?_getD, hi]
  conv => rhs; rw [e]
  unfold deinterleaveSoft gather sumB
  rw [C10.K_eq, List.map_map, List.map_map]
  have hp := (C10.index_perm.perm.map fun i => base1 7 (xs.getD i 0)).sum_nat
  rw [List.map_map] at hp
  exact hp

/-- every value is an `int8_t` (what the demodulator hands over) -/
def I8 (xs : List Int) : Prop := ∀ x ∈ xs, -128 ≤ x ∧ x ≤ 127

/-- −128 is the one value whose negation wraps; its contribution is 0 either way -/
theorem base1_rand {x : Int} {i : Nat} (h : -128 ≤ x ∧ x ≤ 127) : base1 7 (narrow8 (x * dcSign i)) = base1 7 x := by
  unfold dcSign
  split
  · by_cases hx : x = -128
    · subst hx; decide
    · rw [C10.narrow8_id _ (by omega) (by omega)]; simp [base1]
  · rw [Int.mul_one, C10.narrow8_id _ h.1 h.2]

theorem sum_randSoft (xs : List Int) (h8 : I8 xs) : sumB (randSoft xs) = sumB xs := by
  unfold sumB randSoft
  rw [List.map_map]
  conv => rhs; rw [← List.zipIdx_map_fst 0 xs, List.map_map]
  exact congrArg List.sum (List.map_congr_left fun x hx => base1_rand (h8 _ (List.fst_mem_of_mem_zipIdx hx)))

/-- single-block frames (LSF, packet, BERT): all 368 received values count -/
theorem _root_.M17.C01F.Geom.cleanCost_formula {p : List Nat} {n k : Nat} (G : Geom p n k 368) (frame : List Int)
    (hf : frame.length = 368) (h8 : I8 frame) : cleanCost p frame n = roundDiv (sumB frame) 7 := by
  unfold cleanCost
  rw [slack_eq_sum p _ n (by rw [G.len]; omega), List.take_of_length_le (by rw [C10.deinterleaveSoft_length]; exact G.kept)]
  exact congrArg (roundDiv · 7) ((sum_deinterleave _ (by rw [C01F.randSoft_length, hf])).trans (sum_randSoft _ h8))

theorem lsf_cost_formula (frame : List Int) (hf : frame.length = 368) (h8 : I8 frame) : cleanCost Gen.p1 frame 488 = roundDiv (sumB frame) 7 :=
  geomLsf.cleanCost_formula frame hf h8

theorem packet_cost_formula (frame : List Int) (hf : frame.length = 368) (h8 : I8 frame) : cleanCost Gen.p3 frame 420 = roundDiv (sumB frame) 7 :=
  geomPacket.cleanCost_formula frame hf h8

theorem bert_cost_formula (frame : List Int) (hf : frame.length = 368) (h8 : I8 frame) : cleanCost Gen.p2 frame 402 = roundDiv (sumB frame) 7 :=
  geomBert.cleanCost_formula frame hf h8

/-- stream frames: the cost counts the 272 payload values (de-interleaved positions 96..367) only -/
theorem stream_cost_formula (frame : List Int) :
    roundDiv (slack Gen.p2 ((deinterleaveSoft (randSoft frame)).drop 96) 296) 7 =
      roundDiv (sumB ((deinterleaveSoft (randSoft frame)).drop 96)) 7 := by
  rw [slack_eq_sum Gen.p2 _ 296 (by decide), List.take_of_length_le (by
    rw [List.length_drop, C10.deinterleaveSoft_length]; exact geomStream.kept)]
  rfl

/-- on a clean soft image every value is non-zero with magnitude ≤ 7, so its contribution is exactly 7 − |r| -/
theorem base1_of_carries (lo : Int) (hlo : 1 ≤ lo) (b : Bool) (x : Int) (h : Carries lo b x) : (base1 7 x : Int) = 7 - x.natAbs := by
  unfold Carries at h; unfold base1
  cases b <;> simp at h <;> split <;> omega

/-- the stream cost in terms of FRAME positions: the 272 positions that the interleaver maps to de-interleaved indices 96..367 -/
theorem stream_slack_positions (frame : List Int) (hf : frame.length = 368) (h8 : I8 frame) :
    sumB ((deinterleaveSoft (randSoft frame)).drop 96) =
      ((List.range' 96 272).map (fun i => base1 7 (frame.getD (index i) 0))).sum := by
  unfold deinterleaveSoft gather sumB
  rw [C10.K_eq, ← List.map_drop, List.range_eq_range', List.drop_range', List.map_map]
  refine congrArg List.sum (List.map_congr_left fun i _ => ?_)
  have hi : index i < frame.length := hf ▸ C10.index_lt i
  simp only [Function.comp]
  rw [C01F.randSoft_getD frame (index i) hi, List.getD_eq_getElem?_getD, List.getElem?_eq_getElem hi]
  exact base1_rand (h8 _ (List.getElem_mem hi))

example : sumB [7, -7, 3, -1] = 10 := by decide

end M17.C01G
