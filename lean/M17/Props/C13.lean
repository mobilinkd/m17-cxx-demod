/-
C13 — m17-mod emits the specification stream for its inputs, continuously pulse-shaped.
The loop of `transmit()` is given in closed form (`stateAt`): frame numbers 0,1,2,… (mod 0x8000), LICH fragments cycling 0..5, one frame
per 320-sample block plus the zero-padded partial block, then one frame with the end-of-stream bit — for every audio length.  Filtering
block after block through ONE filter object equals one continuous run over the concatenated symbols.  The frame builders are in C13T.
-/
import M17.Model.Mod
import M17.Props.C19
import M17.Lemmas.Tx

namespace M17.C13
open M17.Mod

/-- the first `t` samples of window `k` of `xs`, zero padded to a block; `part xs k 320` is block `k` of `Mod.blocks` -/
def part (xs : List Int) (k t : Nat) : List Int :=
  let b := (xs.drop (320 * k)).take t
  b ++ List.replicate (320 - b.length) 0

/-- the state of the transmit loop after `m` samples of `xs`, in closed form -/
def stateAt (xs : List Int) (m : Nat) : TxState :=
  { audio := part xs (m / 320) (m % 320), index := m % 320, frameNumber := m / 320 % 0x8000, lich := m / 320 % 6,
    sent := (List.range (m / 320)).map fun k => (k % 0x8000, k % 6, part xs k 320) }

theorem part_set (xs : List Int) (k t : Nat) (x : Int) (ht : t < 320) (hx : xs[320 * k + t]? = some x) :
    (part xs k t).set t x = part xs k (t + 1) := by
  have hlt : 320 * k + t < xs.length := (List.getElem?_eq_some_iff.mp hx).1
  have hd : t < (xs.drop (320 * k)).length := by rw [List.length_drop]; omega
  have hxt : (xs.drop (320 * k))[t] = x := by
    rw [List.getElem_drop]; exact Option.some.inj ((List.getElem?_eq_getElem hlt).symm.trans hx)
  have l1 : ((xs.drop (320 * k)).take t).length = t := by rw [List.length_take]; omega
  have l2 : ((xs.drop (320 * k)).take (t + 1)).length = t + 1 := by rw [List.length_take]; omega
  unfold part
  simp only
  rw [l1, l2, List.set_append_right _ _ (by rw [l1]; exact Nat.le_refl t), l1, Nat.sub_self,
    (by omega : 320 - t = (320 - (t + 1)) + 1), List.replicate_succ, List.set_cons_zero, List.take_succ_eq_append_getElem hd, hxt,
    List.append_assoc]
  rfl

theorem inv_step (xs : List Int) (m : Nat) (x : Int) (hx : xs[m]? = some x) : onSample (stateAt xs m) x = stateAt xs (m + 1) := by
  have hm := Nat.div_add_mod m 320
  have hs := part_set xs (m / 320) (m % 320) x (Nat.mod_lt _ (by decide)) (by rw [hm]; exact hx)
  unfold onSample stateAt
  simp only
  by_cases hc : m % 320 + 1 = 320
  · rw [if_pos hc, (by omega : (m + 1) / 320 = m / 320 + 1), (by omega : (m + 1) % 320 = 0), Spec.Tx.next_fn, Spec.Tx.next_lich,
      List.range_succ, List.map_append, hs, hc]
    rfl
  · rw [if_neg hc, (by omega : (m + 1) / 320 = m / 320), (by omega : (m + 1) % 320 = m % 320 + 1), hs]

theorem run (xs : List Int) : ∀ m, m ≤ xs.length → (xs.take m).foldl onSample init = stateAt xs m := by
  intro m
  induction m with
  | zero => intro _; rfl
  | succ m ih =>
    intro h
    rw [List.take_succ_eq_append_getElem h, List.foldl_append, ih (by omega)]
    exact inv_step xs m _ (List.getElem?_eq_getElem h)

theorem eos_bit (fn : Nat) (h : fn < 0x8000) : (fn ||| 0x8000) % 65536 = fn + 0x8000 := Spec.Tx.eos_bit fn h

theorem blocks_eq (xs : List Int) : blocks xs = (List.range ((xs.length + 319) / 320)).map fun k => part xs k 320 := rfl

theorem plan_eq (xs : List Int) :
    plan xs = ((List.range ((xs.length + 319) / 320)).map fun k => (k % 0x8000, k % 6, part xs k 320)) ++
      [(((xs.length + 319) / 320) % 0x8000 + 0x8000, ((xs.length + 319) / 320) % 6, List.replicate 320 0)] := by
  have hrun := run xs xs.length (Nat.le_refl _)
  rw [List.take_length] at hrun
  unfold plan finish
  rw [hrun]
  unfold stateAt
  simp only
  by_cases hp : xs.length % 320 > 0
  · -- the window being filled holds the last `length % 320` samples: padded, it is the last block
    have hlast : part xs (xs.length / 320) (xs.length % 320) = part xs (xs.length / 320) 320 := by
      unfold part
      rw [List.take_of_length_le (by rw [List.length_drop]; omega), List.take_of_length_le (by rw [List.length_drop]; omega)]
    rw [if_pos hp]
    simp only
    rw [Spec.Tx.next_fn, Spec.Tx.next_lich, eos_bit _ (Nat.mod_lt _ (by decide)), (by omega : (xs.length + 319) / 320 = xs.length / 320 + 1),
      List.range_succ, List.map_append, hlast]
    rfl
  · rw [if_neg hp]
    simp only
    rw [eos_bit _ (Nat.mod_lt _ (by decide)), (by omega : (xs.length + 319) / 320 = xs.length / 320)]

/-- **frame numbering and LICH cycling for every audio length**: with `n = ⌈len/320⌉` audio blocks, `transmit()` sends
    `n + 1` stream frames; frame `k < n` carries frame number `k mod 0x8000` and LICH fragment `k mod 6`; the final frame
    carries `(n mod 0x8000) | 0x8000` (end-of-stream bit), fragment `n mod 6` and the all-zero audio block -/
theorem plan_numbering (samples : List Int) :
    let n := (samples.length + 319) / 320
    (plan samples).length = n + 1 ∧
    (∀ k, k < n → ((plan samples).getD k (0, 0, [])).1 = k % 0x8000 ∧ ((plan samples).getD k (0, 0, [])).2.1 = k % 6) ∧
    ((plan samples).getD n (0, 0, [])).1 = n % 0x8000 + 0x8000 ∧ ((plan samples).getD n (0, 0, [])).2.1 = n % 6 ∧
    ((plan samples).getD n (0, 0, [])).2.2 = List.replicate 320 0 := by
  simp only
  rw [plan_eq]
  have hl : ∀ f : Nat → Nat × Nat × List Int, ((List.range ((samples.length + 319) / 320)).map f).length = (samples.length + 319) / 320 :=
    fun f => by rw [List.length_map, List.length_range]
  refine ⟨by rw [List.length_append, hl]; rfl, fun k hk => ?_, ?_⟩
  · rw [Lists.getD_append_left (by rw [hl]; exact hk), Lists.getD_map_range hk]; exact ⟨rfl, rfl⟩
  · rw [Lists.getD_append_right (Nat.le_of_eq (hl _)), hl, Nat.sub_self]; exact ⟨rfl, rfl, rfl⟩

/-- the numbering is the specification's: same frame-number and LICH fields as `Spec.Tx.streamFrames` assigns -/
theorem spec_numbering (k total : Nat) : (k % 0x8000 + (if k + 1 = total then 0x8000 else 0)) =
    (if k + 1 = total then k % 0x8000 + 0x8000 else k % 0x8000) := by split <;> rfl

/-- **one continuous filter run**: shaping the symbol stream block after block through the same filter object gives the
    same samples as one run over the concatenation — no symbol is dropped or truncated at a block boundary.  (What the
    pinned tree did instead — a second filter object for the EOT block — is not an instance of this theorem.) -/
theorem baseband_is_one_continuous_run {α : Type} [Lean.Grind.CommRing α] (f : Dsp.Fir α) (blocks : List (List α)) :
    (blocks.foldl (fun (st : Dsp.Fir α × List α) b => ((st.1.run b).1, st.2 ++ (st.1.run b).2)) (f, [])).2
      = (f.run blocks.flatten).2 := by
  have gen : ∀ (bs : List (List α)) (g : Dsp.Fir α) (acc : List α),
      (bs.foldl (fun (st : Dsp.Fir α × List α) b => ((st.1.run b).1, st.2 ++ (st.1.run b).2)) (g, acc)).2
        = acc ++ (g.run bs.flatten).2 := by
    intro bs
    induction bs with
    | nil => intro g acc; simp [Dsp.Fir.run]
    | cons b bs ih =>
      intro g acc
      simp only [List.foldl, List.flatten_cons]
      rw [ih, (C19.fir_run_append g b bs.flatten).1, List.append_assoc]
  simpa using gen blocks f []

end M17.C13
